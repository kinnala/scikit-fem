import SkfemVerif.Model.DofLookup
import SkfemVerif.Lemmas.DofLookup
/-
C07  DOF lookup returns exactly the DOFs that control the selected entities.

Model: Model/Dofs.lean and Model/DofLookup.lean (`facetView / elementView / vertexView` =
`Dofs.get_facet_dofs / …`, `normalize` = `Mesh.normalize_*`, `compositeNames / vectorNames /
dgNames` = the `dofnames` of the wrapper elements).
Tie: correspondence ops `dofs.lookup`, `dofs.normalize`, `dofs.complement`, `dofs.or`,
`dofs.names_of`, `elem.names`, `topo.expand_facets`, exact against `basis.get_dofs(...)`,
`mesh.normalize_*`, `basis.complement_dofs`, `Element.dofnames`.
-/
namespace Skv.C07

def RowsOk (c : DofCounts) (tp : Topo) (v : View) : Prop :=
  (∀ a ∈ v.nodalRows, a < nRowsNodal c tp) ∧ (∀ a ∈ v.facetRows, a < nRowsFacet c tp)
  ∧ (∀ a ∈ v.edgeRows, a < nRowsEdge c tp) ∧ (∀ a ∈ v.interiorRows, a < nRowsInterior c tp)

def IxOk (tp : Topo) (v : View) : Prop :=
  (∀ e ∈ v.nodalIx, e < tp.nverts) ∧ (∀ e ∈ v.facetIx, e < tp.nfacets)
  ∧ (∀ e ∈ v.edgeIx, e < tp.nedges) ∧ (∀ e ∈ v.interiorIx, e < tp.nt)

def RowsOk' (c : DofCounts) (tp : Topo) (r : Rows) : Prop :=
  (∀ a ∈ r.nodal, a < nRowsNodal c tp) ∧ (∀ a ∈ r.facet, a < nRowsFacet c tp)
  ∧ (∀ a ∈ r.edge, a < nRowsEdge c tp) ∧ (∀ a ∈ r.interior, a < nRowsInterior c tp)

theorem nameRows_ok (c : DofCounts) (tp : Topo) (dofnames names : List String) (skip : Bool) :
    RowsOk' c tp (nameRows c tp dofnames names skip) := by
  refine ⟨?_, ?_, ?_, ?_⟩ <;> intro a ha <;> exact (mem_rowsByName.mp ha).1

/-- a view flattens to exactly the table entries `dofNumber count offset row entity` of its
    selected rows and entities, block by block -/
theorem C07_view_dofs (c : DofCounts) (tp : Topo) (v : View) (hr : RowsOk c tp v) (hi : IxOk tp v)
    (x : Nat) :
    x ∈ v.flatten c tp ↔
      (∃ a ∈ v.nodalRows, ∃ e ∈ v.nodalIx, dofNumber c.nodal 0 a e = x)
      ∨ (∃ d ∈ v.facetRows, ∃ e ∈ v.facetIx, dofNumber c.facet (offFacet c tp) d e = x)
      ∨ (∃ b ∈ v.edgeRows, ∃ e ∈ v.edgeIx, dofNumber c.edge (offEdge c tp) b e = x)
      ∨ (∃ g ∈ v.interiorRows, ∃ e ∈ v.interiorIx, dofNumber c.interior (offInterior c tp) g e = x) := by
  rw [mem_flatten_view, (isBlock_nodal c tp).mem_select hr.1 hi.1,
    (isBlock_facet c tp).mem_select hr.2.1 hi.2.1, (isBlock_edge c tp).mem_select hr.2.2.1 hi.2.2.1,
    (isBlock_interior c tp).mem_select hr.2.2.2 hi.2.2.2]

/-- the returned array is sorted and duplicate free -/
theorem C07_flatten_sorted (c : DofCounts) (tp : Topo) (v : View) :
    (v.flatten c tp).Pairwise (· < ·) ∧ (v.flatten c tp).Nodup :=
  ⟨pairwise_unique _, nodup_unique _⟩

/-- every returned number is below the total `N` -/
theorem C07_result_in_range (c : DofCounts) (tp : Topo) (v : View) (hr : RowsOk c tp v)
    (hi : IxOk tp v) (x : Nat) (hx : x ∈ v.flatten c tp) : x < dofsTotal c tp := by
  have l1 := offEdge_le_offFacet c tp
  have l2 := offFacet_le_offInterior c tp
  have l3 := offInterior_le_dofsTotal c tp
  rcases (C07_view_dofs c tp v hr hi x).mp hx with
    ⟨a, ha, e, he, rfl⟩ | ⟨a, ha, e, he, rfl⟩ | ⟨a, ha, e, he, rfl⟩ | ⟨a, ha, e, he, rfl⟩
  · exact Nat.lt_of_lt_of_le (nodal_lt (nRowsNodal_eq c tp ▸ hr.1 a ha) (hi.1 e he))
      (Nat.le_trans l1 (Nat.le_trans l2 l3))
  · exact Nat.lt_of_lt_of_le (facet_lt (nRowsFacet_eq c tp ▸ hr.2.1 a ha) (hi.2.1 e he)) l3
  · obtain ⟨hu, hb⟩ := lt_nRowsEdge.mp (hr.2.2.1 a ha)
    exact Nat.lt_of_lt_of_le (edge_lt hu hb (hi.2.2.1 e he)) (Nat.le_trans l2 l3)
  · exact interior_lt (nRowsInterior_eq c tp ▸ hr.2.2.2 a ha) (hi.2.2.2 e he)

/-- `get_facet_dofs`: exactly the (kept) vertex DOFs of the vertices `facets[j][f]` of the
    selected facets `f`, in 3-D (`we`) the edge DOFs of their edges `f2e[j][f]`, and the facet
    DOFs of the facets themselves -/
theorem C07_facet_dofs (c : DofCounts) (tp : Topo) (facets f2e : List (List Nat)) (we : Bool)
    (ix : List Nat) (r : Rows) (hr : RowsOk' c tp r)
    (hix : ∀ f ∈ ix, f < tp.nfacets)
    (hfv : ∀ row ∈ facets, ∀ f < tp.nfacets, row.getD f 0 < tp.nverts)
    (hfe : ∀ row ∈ f2e, ∀ f < tp.nfacets, row.getD f 0 < tp.nedges) (x : Nat) :
    x ∈ (facetView c facets f2e we ix r).flatten c tp ↔
      (∃ a ∈ r.nodal, ∃ f ∈ ix, ∃ row ∈ facets, dofNumber c.nodal 0 a (row.getD f 0) = x)
      ∨ (we = true ∧ ∃ b ∈ r.edge, ∃ f ∈ ix, ∃ row ∈ f2e,
            dofNumber c.edge (offEdge c tp) b (row.getD f 0) = x)
      ∨ (∃ d ∈ r.facet, ∃ f ∈ ix, dofNumber c.facet (offFacet c tp) d f = x) := by
  obtain ⟨hr1, hr2, hr3, _⟩ := hr
  have hN := isBlock_nodal c tp
  have hF := isBlock_facet c tp
  have hE := isBlock_edge c tp
  rw [mem_flatten_view]
  simp only [facetView, expandFacets_fst, expandFacets_snd]
  -- block by block: the `== 0` guards go, then the selection is read off
  rw [hN.select_guard hr1, hF.select_guard hr2, hE.select_guard hr3, selectDofs_nil_ix,
    hN.mem_select_gather hr1 (fun row hrow f hf => hfv row hrow f (hix f hf)),
    hF.mem_select hr2 hix, mem_selectDofs_if,
    hE.mem_select_gather hr3 (fun row hrow f hf => hfe row hrow f (hix f hf)),
    or_iff_left List.not_mem_nil]
  exact or_congr_right or_comm

/-- `get_element_dofs`: exactly the vertex / edge / facet DOFs of the vertices, edges and facets
    of the selected cells and the cells' interior DOFs -/
theorem C07_element_dofs (c : DofCounts) (tp : Topo) (ix : List Nat) (r : Rows)
    (hr : RowsOk' c tp r) (hix : ∀ k ∈ ix, k < tp.nt)
    (ht : ∀ row ∈ tp.t, ∀ k < tp.nt, row.getD k 0 < tp.nverts)
    (hf : ∀ row ∈ tp.t2f, ∀ k < tp.nt, row.getD k 0 < tp.nfacets)
    (he : ∀ row ∈ tp.t2e, ∀ k < tp.nt, row.getD k 0 < tp.nedges) (x : Nat) :
    x ∈ (elementView c tp ix r).flatten c tp ↔
      (∃ a ∈ r.nodal, ∃ k ∈ ix, ∃ row ∈ tp.t, dofNumber c.nodal 0 a (row.getD k 0) = x)
      ∨ (∃ d ∈ r.facet, ∃ k ∈ ix, ∃ row ∈ tp.t2f,
            dofNumber c.facet (offFacet c tp) d (row.getD k 0) = x)
      ∨ (∃ b ∈ r.edge, ∃ k ∈ ix, ∃ row ∈ tp.t2e,
            dofNumber c.edge (offEdge c tp) b (row.getD k 0) = x)
      ∨ (∃ g ∈ r.interior, ∃ k ∈ ix, dofNumber c.interior (offInterior c tp) g k = x) := by
  obtain ⟨hr1, hr2, hr3, hr4⟩ := hr
  have hN := isBlock_nodal c tp
  have hF := isBlock_facet c tp
  have hE := isBlock_edge c tp
  rw [mem_flatten_view]
  simp only [elementView]
  rw [hN.select_guard hr1, hF.select_guard hr2, hE.select_guard hr3,
    hN.mem_select_gather hr1 (fun row hrow k hk => ht row hrow k (hix k hk)),
    hF.mem_select_gather hr2 (fun row hrow k hk => hf row hrow k (hix k hk)),
    hE.mem_select_gather hr3 (fun row hrow k hk => he row hrow k (hix k hk)),
    (isBlock_interior c tp).mem_select hr4 hix]

/-- `get_vertex_dofs`: exactly the (kept) vertex DOFs of the selected vertices -/
theorem C07_vertex_dofs (c : DofCounts) (tp : Topo) (ix : List Nat) (r : Rows)
    (hr : RowsOk' c tp r) (hix : ∀ v ∈ ix, v < tp.nverts) (x : Nat) :
    x ∈ (vertexView ix r).flatten c tp ↔ ∃ a ∈ r.nodal, ∃ v ∈ ix, dofNumber c.nodal 0 a v = x := by
  rw [mem_flatten_view]
  simp only [vertexView]
  rw [selectDofs_nil_ix, selectDofs_nil_ix, selectDofs_nil_ix,
    (isBlock_nodal c tp).mem_select hr.1 hix]
  simp only [List.not_mem_nil, or_false]

/-- two index arrays naming the same set of facets (any order, any repetitions) give the same
    array of DOFs; likewise for cells and vertices below -/
theorem C07_facet_query_set_only (c : DofCounts) (tp : Topo) (facets f2e : List (List Nat))
    (we : Bool) (ix ix' : List Nat) (r : Rows) (h : ∀ f, f ∈ ix ↔ f ∈ ix') :
    (facetView c facets f2e we ix r).flatten c tp = (facetView c facets f2e we ix' r).flatten c tp := by
  unfold View.flatten
  apply unique_congr
  intro x
  simp only [facetView, expandFacets_fst, expandFacets_snd, gatherUnique_congr h, List.mem_append,
    mem_selectDofs, List.mem_ite_nil_left, h]

theorem C07_element_query_set_only (c : DofCounts) (tp : Topo) (ix ix' : List Nat) (r : Rows)
    (h : ∀ k, k ∈ ix ↔ k ∈ ix') :
    (elementView c tp ix r).flatten c tp = (elementView c tp ix' r).flatten c tp := by
  unfold View.flatten
  apply unique_congr
  intro x
  simp only [elementView, gatherUnique_congr h, List.mem_append, mem_selectDofs, h]

theorem C07_vertex_query_set_only (c : DofCounts) (tp : Topo) (ix ix' : List Nat) (r : Rows)
    (h : ∀ k, k ∈ ix ↔ k ∈ ix') :
    (vertexView ix r).flatten c tp = (vertexView ix' r).flatten c tp := by
  unfold View.flatten
  apply unique_congr
  intro x
  simp only [vertexView, List.mem_append, mem_selectDofs, h]

mutual
/-- the set a selector denotes (specification of `normalize_facets / _elements / _nodes`) -/
def den (tags : List (String × List Nat)) (bnd : List Nat) (n : Nat) : Sel → Nat → Prop
  | .idx l, x => x ∈ l
  | .int i, x => x = i
  | .pred tt, x => x < tt.length ∧ tt.getD x false = true
  | .tag s, x => ∃ l, lookupTag tags s = some l ∧ x ∈ l
  | .coll ss, x => denAny tags bnd n ss x
  | .none, x => x ∈ bnd
  | .all, x => x < n
def denAny (tags : List (String × List Nat)) (bnd : List Nat) (n : Nat) : List Sel → Nat → Prop
  | [], _ => False
  | s :: ss, x => den tags bnd n s x ∨ denAny tags bnd n ss x
end

mutual
/-- whenever the selector is accepted, the index array contains exactly the indices it denotes
    (`.pred`: a callable, as its truth table on the midpoints; `.coll`: list/tuple/set; `.none`:
    `None`; `.all`: `True`) -/
theorem C07_normalize_sound (k : SelKind) (tags : List (String × List Nat)) (bnd : List Nat)
    (n : Nat) : ∀ (s : Sel) (l : List Nat), normalize k tags bnd n s = some l →
      ∀ x, x ∈ l ↔ den tags bnd n s x
  | .idx l0, l, h, x => by
    cases h
    simp [den]
  | .int i, l, h, x => by
    obtain ⟨_, ⟨⟩⟩ := Option.ite_none_left_eq_some.mp h
    simp [den]
  | .pred tt, l, h, x => by
    cases h
    simp [den, mem_nonzero]
  | .tag s, l, h, x => by
    obtain ⟨_, h⟩ := Option.ite_none_left_eq_some.mp h
    simp [den, h]
  | .coll ss, l, h, x => by
    cases ss with
    | nil => simp [normalize] at h
    | cons s0 ss0 =>
      obtain ⟨l', hall, rfl⟩ := Option.map_eq_some_iff.mp h
      rw [mem_unique, den]
      exact C07_normalizeAll_sound k tags bnd n (s0 :: ss0) l' hall x
  | .none, l, h, x => by
    obtain ⟨_, ⟨⟩⟩ := Option.ite_none_right_eq_some.mp h
    simp [den]
  | .all, l, h, x => by
    obtain ⟨_, ⟨⟩⟩ := Option.ite_none_right_eq_some.mp h
    simp [den]
theorem C07_normalizeAll_sound (k : SelKind) (tags : List (String × List Nat)) (bnd : List Nat)
    (n : Nat) : ∀ (ss : List Sel) (l : List Nat), normalizeAll k tags bnd n ss = some l →
      ∀ x, x ∈ l ↔ denAny tags bnd n ss x
  | [], l, h, x => by
    cases h
    simp [denAny]
  | s :: ss, l, h, x => by
    obtain ⟨a, b, hs, hss, rfl⟩ := normalizeAll_cons_eq_some.mp h
    rw [List.mem_append, denAny, C07_normalize_sound k tags bnd n s a hs x,
      C07_normalizeAll_sound k tags bnd n ss b hss x]
end

theorem normalize_mem_congr {k : SelKind} {tags : List (String × List Nat)} {bnd : List Nat}
    {n : Nat} {s s' : Sel} {l l' : List Nat} (h : normalize k tags bnd n s = some l)
    (h' : normalize k tags bnd n s' = some l')
    (hden : ∀ x, den tags bnd n s x ↔ den tags bnd n s' x) (x : Nat) : x ∈ l ↔ x ∈ l' := by
  rw [C07_normalize_sound k tags bnd n s l h x, C07_normalize_sound k tags bnd n s' l' h' x]
  exact hden x

/-- a collection is normalised to a strictly ascending array (`np.unique`) -/
theorem C07_normalize_coll_sorted (k : SelKind) (tags : List (String × List Nat)) (bnd : List Nat)
    (n : Nat) (ss : List Sel) (l : List Nat) (h : normalize k tags bnd n (.coll ss) = some l) :
    l.Pairwise (· < ·) := by
  cases ss with
  | nil => simp [normalize] at h
  | cons s0 ss0 =>
    obtain ⟨l', _, rfl⟩ := Option.map_eq_some_iff.mp h
    exact pairwise_unique _

/-- two accepted selectors of any form that denote the same set of facets return the same DOF
    array; likewise for cells and vertices below -/
theorem C07_selectors_agree (c : DofCounts) (tp : Topo) (facets f2e : List (List Nat)) (we : Bool)
    (r : Rows) (tags : List (String × List Nat)) (bnd : List Nat) (n : Nat) (s s' : Sel)
    (l l' : List Nat) (h : normalize .facets tags bnd n s = some l)
    (h' : normalize .facets tags bnd n s' = some l')
    (hden : ∀ x, den tags bnd n s x ↔ den tags bnd n s' x) :
    (facetView c facets f2e we l r).flatten c tp = (facetView c facets f2e we l' r).flatten c tp :=
  C07_facet_query_set_only c tp facets f2e we l l' r (normalize_mem_congr h h' hden)

theorem C07_selectors_agree_elements (c : DofCounts) (tp : Topo) (r : Rows)
    (tags : List (String × List Nat)) (bnd : List Nat) (n : Nat) (s s' : Sel)
    (l l' : List Nat) (h : normalize .elements tags bnd n s = some l)
    (h' : normalize .elements tags bnd n s' = some l')
    (hden : ∀ x, den tags bnd n s x ↔ den tags bnd n s' x) :
    (elementView c tp l r).flatten c tp = (elementView c tp l' r).flatten c tp :=
  C07_element_query_set_only c tp l l' r (normalize_mem_congr h h' hden)

theorem C07_selectors_agree_nodes (c : DofCounts) (tp : Topo) (r : Rows)
    (tags : List (String × List Nat)) (bnd : List Nat) (n : Nat) (s s' : Sel)
    (l l' : List Nat) (h : normalize .nodes tags bnd n s = some l)
    (h' : normalize .nodes tags bnd n s' = some l')
    (hden : ∀ x, den tags bnd n s x ↔ den tags bnd n s' x) :
    (vertexView l r).flatten c tp = (vertexView l' r).flatten c tp :=
  C07_vertex_query_set_only c tp l l' r (normalize_mem_congr h h' hden)

/-- `None` is normalised to `boundary_facets()`, the facets with `f2t[1] == -1` (by C11 those
    with exactly one adjacent cell) -/
theorem C07_default_is_boundary (tags : List (String × List Nat)) (n : Nat) (f2t1 : List Int) :
    normalize .facets tags (boundaryFacets f2t1) n .none = some (boundaryFacets f2t1)
    ∧ ∀ f, f ∈ boundaryFacets f2t1 ↔ f < f2t1.length ∧ f2t1.getD f 0 = -1 := by
  refine ⟨by simp [normalize], ?_⟩
  intro f
  simp [boundaryFacets]

/-- `complement_dofs(D₁, …)` is the ascending enumeration of `0 … N-1` minus `D₁ ∪ …` -/
theorem C07_complement (n : Nat) (ds : List (List Nat)) :
    (∀ x, x ∈ complementDofs n ds ↔ x < n ∧ ∀ d ∈ ds, x ∉ d)
    ∧ (complementDofs n ds).Pairwise (· < ·) := by
  refine ⟨?_, pairwise_complementRange _ _⟩
  intro x
  simp only [complementDofs, mem_complementRange, List.mem_flatten, not_exists, not_and]

/-- a number below `N` is in the complement or in some `Dᵢ`, not both -/
theorem C07_complement_partition (n : Nat) (ds : List (List Nat)) (x : Nat) (hx : x < n) :
    (x ∈ complementDofs n ds ∧ ¬ ∃ d ∈ ds, x ∈ d) ∨ (x ∉ complementDofs n ds ∧ ∃ d ∈ ds, x ∈ d) := by
  have h := (C07_complement n ds).1 x
  by_cases hd : ∃ d ∈ ds, x ∈ d
  · right
    refine ⟨?_, hd⟩
    intro hc
    obtain ⟨d, hd1, hd2⟩ := hd
    exact (h.mp hc).2 d hd1 hd2
  · left
    refine ⟨h.mpr ⟨hx, ?_⟩, hd⟩
    intro d hd1 hd2
    exact hd ⟨d, hd1, hd2⟩

/-- `a | b` with equal row selections has the DOFs of either operand -/
theorem C07_or (c : DofCounts) (tp : Topo) (a b : View)
    (hrows : a.nodalRows = b.nodalRows ∧ a.facetRows = b.facetRows ∧ a.edgeRows = b.edgeRows
      ∧ a.interiorRows = b.interiorRows) (x : Nat) :
    x ∈ (a.or b).flatten c tp ↔ x ∈ a.flatten c tp ∨ x ∈ b.flatten c tp := by
  obtain ⟨h1, h2, h3, h4⟩ := hrows
  simp only [mem_flatten_view, View.or, mem_selectDofs_union, ← h1, ← h2, ← h3, ← h4]
  rw [or_or_or_comm (a := x ∈ selectDofs (edgeDofs c tp) _ _), or_or_or_comm (a := x ∈ selectDofs (facetDofs c tp) _ _),
    or_or_or_comm (a := x ∈ selectDofs (nodalDofs c tp) _ _)]

/-- `dofName` (decode block and row from the number) gives every table entry the name
    `_dofnames_to_rows` reads for its row: nodal rows at offset 0 of the element's list, facet
    rows at `n_nodal`, edge rows at `n_nodal + n_facet`, interior rows after these -/
theorem C07_dofName_spec (c : DofCounts) (tp : Topo) (dn : List String) :
    (∀ a e, a < c.nodal → e < tp.nverts →
      dofName c tp dn (dofNumber c.nodal 0 a e) = rowName dn 0 a)
    ∧ (∀ d f, d < c.facet → f < tp.nfacets →
      dofName c tp dn (dofNumber c.facet (offFacet c tp) d f) = rowName dn (nRowsNodal c tp) d)
    ∧ (∀ b e, useEdges c tp = true → b < c.edge → e < tp.nedges →
      dofName c tp dn (dofNumber c.edge (offEdge c tp) b e)
        = rowName dn (nRowsNodal c tp + nRowsFacet c tp) b)
    ∧ (∀ g k, g < c.interior →
      dofName c tp dn (dofNumber c.interior (offInterior c tp) g k)
        = rowName dn (nRowsNodal c tp + nRowsFacet c tp + nRowsEdge c tp) g) := by
  have l1 := offEdge_le_offFacet c tp
  have l2 := offFacet_le_offInterior c tp
  refine ⟨?_, ?_, ?_, ?_⟩
  · intro a e ha he
    have hm := dofNumber_sub_mod (off := 0) (e := e) ha
    rw [Nat.sub_zero] at hm
    unfold dofName
    rw [if_pos (nodal_lt ha he), hm]
  · intro d f hd hf
    have hge := dofNumber_ge c.facet (offFacet c tp) d f
    unfold dofName
    rw [if_neg (Nat.not_lt.mpr (Nat.le_trans l1 hge)), if_neg (Nat.not_lt.mpr hge),
      if_pos (facet_lt hd hf), dofNumber_sub_mod hd]
  · intro b e hue hb he
    unfold dofName
    rw [if_neg (Nat.not_lt.mpr (dofNumber_ge _ _ _ _)), if_pos (edge_lt hue hb he),
      dofNumber_sub_mod hb]
  · intro g k hg
    have hge := dofNumber_ge c.interior (offInterior c tp) g k
    unfold dofName
    rw [if_neg (Nat.not_lt.mpr (Nat.le_trans l1 (Nat.le_trans l2 hge))),
      if_neg (Nat.not_lt.mpr (Nat.le_trans l2 hge)), if_neg (Nat.not_lt.mpr hge),
      dofNumber_sub_mod hg]

/-- restricting a view by `_dofnames_to_rows(names, skip)` keeps exactly its DOFs whose name is
    (`skip = false`) resp. is not (`skip = true`) in `names` -/
theorem C07_name_filter (c : DofCounts) (tp : Topo) (dn names : List String) (skip : Bool)
    (v : View) (hr : RowsOk c tp v) (hi : IxOk tp v) (x : Nat) :
    x ∈ (v.restrictRows (nameRows c tp dn names skip)).flatten c tp ↔
      x ∈ v.flatten c tp ∧ names.contains (dofName c tp dn x) = !skip := by
  obtain ⟨hs1, hs2, hs3, hs4⟩ := C07_dofName_spec c tp dn
  rw [mem_flatten_view, mem_flatten_view]
  simp only [View.restrictRows, nameRows]
  rw [(isBlock_nodal c tp).mem_select_named (nr := nRowsNodal c tp) rfl hr.1 hi.1
      (fun a ha e he => hs1 a e (nRowsNodal_eq c tp ▸ ha) he),
    (isBlock_facet c tp).mem_select_named (nr := nRowsFacet c tp) rfl hr.2.1 hi.2.1
      (fun a ha e he => hs2 a e (nRowsFacet_eq c tp ▸ ha) he),
    (isBlock_edge c tp).mem_select_named (nr := nRowsEdge c tp) rfl hr.2.2.1 hi.2.2.1
      (fun a ha e he => hs3 a e (lt_nRowsEdge.mp ha).1 (lt_nRowsEdge.mp ha).2 he),
    (isBlock_interior c tp).mem_select_named (nr := nRowsInterior c tp) rfl hr.2.2.2 hi.2.2.2
      (fun a ha e _ => hs4 a e (nRowsInterior_eq c tp ▸ ha))]
  simp only [or_and_right]

/-- `keep(names)` / `all(names)`: exactly the DOFs of the view whose name is in `names` -/
theorem C07_keep (c : DofCounts) (tp : Topo) (dn names : List String) (v : View)
    (hr : RowsOk c tp v) (hi : IxOk tp v) (x : Nat) :
    (x ∈ (v.keep c tp dn names).flatten c tp ↔
      x ∈ v.flatten c tp ∧ names.contains (dofName c tp dn x) = true)
    ∧ (x ∈ v.all c tp dn names ↔
      x ∈ v.flatten c tp ∧ names.contains (dofName c tp dn x) = true) := by
  have := C07_name_filter c tp dn names false v hr hi x
  exact ⟨this, this⟩

/-- `drop(names)`: exactly the DOFs of the view whose name is not in `names` -/
theorem C07_drop (c : DofCounts) (tp : Topo) (dn names : List String) (v : View)
    (hr : RowsOk c tp v) (hi : IxOk tp v) (x : Nat) :
    x ∈ (v.drop c tp dn names).flatten c tp ↔
      x ∈ v.flatten c tp ∧ names.contains (dofName c tp dn x) = false :=
  C07_name_filter c tp dn names true v hr hi x

/-- the `skip` argument of `get_dofs` is `drop` applied to the unrestricted query (facet, cell and
    vertex queries) -/
theorem C07_skip_argument (c : DofCounts) (tp : Topo) (dn names : List String)
    (facets f2e : List (List Nat)) (we : Bool) (ix : List Nat) :
    facetView c facets f2e we ix (nameRows c tp dn names true)
        = (facetView c facets f2e we ix (nameRows c tp dn [] true)).drop c tp dn names
    ∧ elementView c tp ix (nameRows c tp dn names true)
        = (elementView c tp ix (nameRows c tp dn [] true)).drop c tp dn names
    ∧ vertexView ix (nameRows c tp dn names true)
        = (vertexView ix (nameRows c tp dn [] true)).drop c tp dn names := by
  refine ⟨?_, ?_, ?_⟩ <;>
    simp [facetView, elementView, vertexView, View.drop, View.restrictRows, nameRows, interRows_all]

/-- without `skip` every row is selected -/
theorem C07_no_skip_all_rows (c : DofCounts) (tp : Topo) (dn : List String) :
    nameRows c tp dn [] true
      = ⟨List.range (nRowsNodal c tp), List.range (nRowsFacet c tp), List.range (nRowsEdge c tp),
         List.range (nRowsInterior c tp)⟩ := by
  simp [nameRows, rowsByName]

/-- by-name dictionaries (`.nodal`, `.facet`, `.edge`, `.interior`): the value under a key is
    exactly the selected entries of the rows carrying that name; every selected row's name is a
    key; no key twice -/
theorem C07_by_name (table : List (List Nat)) (rows ix : List Nat) (dn : List String) (off : Nat) :
    (∀ nm l, (nm, l) ∈ byName table rows ix dn off →
      ∀ x, x ∈ l ↔ ∃ r ∈ rows, rowName dn off r = nm ∧ ∃ e ∈ ix, (table.getD r []).getD e 0 = x)
    ∧ (∀ r ∈ rows, ∃ l, (rowName dn off r, l) ∈ byName table rows ix dn off)
    ∧ ((byName table rows ix dn off).map (·.1)).Nodup := by
  refine ⟨?_, ?_, ?_⟩
  · intro nm l h x
    obtain ⟨_, _, ⟨⟩⟩ := List.mem_map.mp h
    simp only [mem_selectDofs, List.mem_filter, beq_iff_eq, and_assoc]
  · intro r hr
    exact ⟨_, List.mem_map.mpr
      ⟨rowName dn off r, mem_firstOccs.mpr (List.mem_map.mpr ⟨r, hr, rfl⟩), rfl⟩⟩
  · simp only [byName, List.map_map, Function.comp_def, List.map_id']
    exact nodup_firstOccs _

/-- the element's name list has one name per table row -/
def WF (e : ElemNames) : Prop :=
  e.names.length = e.counts.nodal + e.counts.facet + e.counts.edge + e.counts.interior

theorem wf_lengths (e : ElemNames) (h : WF e) :
    e.nodalNames.length = e.counts.nodal ∧ e.facetNames.length = e.counts.facet
    ∧ e.edgeNames.length = e.counts.edge ∧ e.interiorNames.length = e.counts.interior := by
  unfold WF at h
  simp only [ElemNames.nodalNames, ElemNames.facetNames, ElemNames.edgeNames,
    ElemNames.interiorNames, List.length_take, List.length_drop]
  omega

/-- repaired `ElementComposite.__init__`: the rows of each kind are the rows of the components,
    component after component (the order of the DOF tables and of `_deduce_bfun`), and the name
    `_dofnames_to_rows` reads for local row `j` of component `i` is the name it reads for row `j`
    of that kind of the component itself, with `^(i+1)` appended.  On the pinned tree this fails
    for facet and edge rows (`C07_name_filter_old_counterexample`, F12). -/
theorem C07_composite_names (cs : List ElemNames) (hwf : ∀ e ∈ cs, WF e) (i j : Nat)
    (hi : i < cs.length) :
    (j < cs[i].counts.nodal →
      rowName (compositeNames cs) 0 (((cs.take i).map (·.counts.nodal)).sum + j)
        = suffixName i (rowName cs[i].names 0 j))
    ∧ (j < cs[i].counts.facet →
      rowName (compositeNames cs) (sumCounts cs).nodal (((cs.take i).map (·.counts.facet)).sum + j)
        = suffixName i (rowName cs[i].names cs[i].counts.nodal j))
    ∧ (j < cs[i].counts.edge →
      rowName (compositeNames cs) ((sumCounts cs).nodal + (sumCounts cs).facet)
          (((cs.take i).map (·.counts.edge)).sum + j)
        = suffixName i (rowName cs[i].names (cs[i].counts.nodal + cs[i].counts.facet) j))
    ∧ (j < cs[i].counts.interior →
      rowName (compositeNames cs)
          ((sumCounts cs).nodal + (sumCounts cs).facet + (sumCounts cs).edge)
          (((cs.take i).map (·.counts.interior)).sum + j)
        = suffixName i (rowName cs[i].names
            (cs[i].counts.nodal + cs[i].counts.facet + cs[i].counts.edge) j)) := by
  have hN := fun e he => (wf_lengths e (hwf e he)).1
  have hF := fun e he => (wf_lengths e (hwf e he)).2.1
  have hE := fun e he => (wf_lengths e (hwf e he)).2.2.1
  have hI := fun e he => (wf_lengths e (hwf e he)).2.2.2
  refine ⟨?_, ?_, ?_, ?_⟩
  · intro hj
    exact composite_block cs ElemNames.nodalNames (·.counts.nodal) (fun _ => 0) hN
      (fun e _ j hj => nodalNames_getD hj) []
      (kindNames ElemNames.facetNames cs ++ kindNames ElemNames.edgeNames cs
        ++ kindNames ElemNames.interiorNames cs)
      (by simp [compositeNames]) i j hi hj
  · intro hj
    have := composite_block cs ElemNames.facetNames (·.counts.facet) (·.counts.nodal) hF
      (fun e _ j hj => facetNames_getD hj) (kindNames ElemNames.nodalNames cs)
      (kindNames ElemNames.edgeNames cs ++ kindNames ElemNames.interiorNames cs)
      (by simp [compositeNames]) i j hi hj
    rwa [length_kindNames hN] at this
  · intro hj
    have := composite_block cs ElemNames.edgeNames (·.counts.edge)
      (fun e => e.counts.nodal + e.counts.facet) hE (fun e _ j hj => edgeNames_getD hj)
      (kindNames ElemNames.nodalNames cs ++ kindNames ElemNames.facetNames cs)
      (kindNames ElemNames.interiorNames cs) (by simp [compositeNames]) i j hi hj
    rwa [List.length_append, length_kindNames hN, length_kindNames hF] at this
  · intro hj
    have := composite_block cs ElemNames.interiorNames (·.counts.interior)
      (fun e => e.counts.nodal + e.counts.facet + e.counts.edge) hI
      (fun e _ j hj => interiorNames_getD hj)
      (kindNames ElemNames.nodalNames cs ++ kindNames ElemNames.facetNames cs
        ++ kindNames ElemNames.edgeNames cs) [] (by simp [compositeNames]) i j hi hj
    rwa [List.length_append, List.length_append, length_kindNames hN, length_kindNames hF,
      length_kindNames hE] at this

/-- the composite's list has again one name per table row (so composites nest) -/
theorem C07_composite_wf (cs : List ElemNames) (hwf : ∀ e ∈ cs, WF e) : WF (compositeElem cs) := by
  rw [WF, compositeElem, compositeNames]
  simp only [List.length_append,
    length_kindNames (fun e he => (wf_lengths e (hwf e he)).1),
    length_kindNames (fun e he => (wf_lengths e (hwf e he)).2.1),
    length_kindNames (fun e he => (wf_lengths e (hwf e he)).2.2.1),
    length_kindNames (fun e he => (wf_lengths e (hwf e he)).2.2.2)]
  rfl

/-- `ElementVector`: every count, hence every offset, is multiplied by `dim`; row `a * dim + j`
    of a kind is component `j` of row `a` of the wrapped element and is called `name^(j+1)` -/
theorem C07_vector_names (dim : Nat) (names : List String) (off a j : Nat)
    (ha : a + off < names.length) (hj : j < dim) :
    rowName (vectorNames dim names) (off * dim) (a * dim + j)
      = suffixName j (rowName names off a) := by
  unfold rowName
  have : a * dim + j + off * dim = (a + off) * dim + j := by rw [Nat.add_mul]; omega
  rw [this, vectorNames_getD dim names (a + off) j ha hj]

/-- repaired `ElementDG`: interior rows only, one per local basis function of the wrapped
    element in the order of the per-cell layout (C04: vertices, edges, facets, interior; DOF `a`
    of the `itr`-th entity at `itr * count + a`), each named as `_dofnames_to_rows` names the
    corresponding row of the wrapped element -/
theorem C07_dg_names (nn ne nf : Nat) (e : ElemNames) (hwf : WF e) :
    (∀ lv a, lv < nn → a < e.counts.nodal →
      rowName (dgNames nn ne nf e) 0 (lv * e.counts.nodal + a) = rowName e.names 0 a)
    ∧ (∀ le b, le < ne → b < e.counts.edge →
      rowName (dgNames nn ne nf e) 0 (nn * e.counts.nodal + (le * e.counts.edge + b))
        = rowName e.names (e.counts.nodal + e.counts.facet) b)
    ∧ (∀ lf d, lf < nf → d < e.counts.facet →
      rowName (dgNames nn ne nf e) 0
          (nn * e.counts.nodal + ne * e.counts.edge + (lf * e.counts.facet + d))
        = rowName e.names e.counts.nodal d)
    ∧ (∀ g, g < e.counts.interior →
      rowName (dgNames nn ne nf e) 0
          (nn * e.counts.nodal + ne * e.counts.edge + nf * e.counts.facet + g)
        = rowName e.names (e.counts.nodal + e.counts.facet + e.counts.edge) g) := by
  obtain ⟨lN, lF, lE, _⟩ := wf_lengths e hwf
  have LN := lN ▸ length_replicateNames nn e.nodalNames
  have LE := lE ▸ length_replicateNames ne e.edgeNames
  have LF := lF ▸ length_replicateNames nf e.facetNames
  have hdg : ∀ p, rowName (dgNames nn ne nf e) 0 p
      = (replicateNames nn e.nodalNames ++ (replicateNames ne e.edgeNames
          ++ (replicateNames nf e.facetNames ++ e.restNames))).getD p "" := by
    intro p
    rw [dgNames, cellLayoutNames, List.append_assoc, List.append_assoc]
    rfl
  refine ⟨?_, ?_, ?_, ?_⟩
  · intro lv a hlv ha
    rw [hdg, ← lN, getD_replicateNames_append _ _ hlv (lN ▸ ha), nodalNames_getD ha]
  · intro le b hle hb
    rw [hdg, getD_append_right LN, ← lE, getD_replicateNames_append _ _ hle (lE ▸ hb),
      edgeNames_getD hb]
  · intro lf d hlf hd
    rw [hdg, Nat.add_assoc, getD_append_right LN, getD_append_right LE, ← lF,
      getD_replicateNames_append _ _ hlf (lF ▸ hd), facetNames_getD hd]
  · intro g _
    rw [hdg, Nat.add_assoc, Nat.add_assoc, getD_append_right LN, getD_append_right LE,
      getD_append_right LF, restNames_getD]

/-- `ElementTetP2`: one vertex DOF, one edge DOF -/
def tetP2 : ElemNames := ⟨⟨1, 1, 0, 0⟩, ["u", "u"]⟩
/-- `ElementTetRT1`: one facet DOF -/
def tetRT1 : ElemNames := ⟨⟨0, 0, 1, 0⟩, ["u^n"]⟩
/-- one tetrahedron: 4 vertices, 6 edges, 4 facets -/
def oneTet : Topo :=
  { dim := 3, nverts := 4, nedges := 6, nfacets := 4, nt := 1,
    t := [[0], [1], [2], [3]], t2e := [[0], [3], [1], [2], [4], [5]], t2f := [[0], [1], [2], [3]] }

/-- F12: for `ElementTetP2() * ElementTetRT1()` the old `ElementComposite.__init__` lists the
    names as nodal, EDGE, FACET while `_dofnames_to_rows` reads nodal, FACET, EDGE.  On a
    tetrahedron (0–3 vertex DOFs, 4–9 edge DOFs, 10–13 facet DOFs) the boundary query
    `.all('u^n^2')` returns the six EDGE DOFs of the P2 component; with the repaired list, the four
    facet DOFs of the Raviart–Thomas component. -/
theorem C07_name_filter_old_counterexample :
    compositeNamesOld [tetP2, tetRT1] = ["u^1", "u^1", "u^n^2"]
    ∧ compositeNames [tetP2, tetRT1] = ["u^1", "u^n^2", "u^1"]
    ∧ (let c : DofCounts := ⟨1, 1, 1, 0⟩
       let v := facetView c [[0, 0, 0, 1], [1, 1, 2, 2], [2, 3, 3, 3]]
         [[0, 0, 1, 3], [3, 4, 5, 5], [1, 2, 2, 4]] true [0, 1, 2, 3]
         (nameRows c oneTet (compositeNamesOld [tetP2, tetRT1]) [] true)
       v.all c oneTet (compositeNamesOld [tetP2, tetRT1]) ["u^n^2"] = [4, 5, 6, 7, 8, 9])
    ∧ (let c : DofCounts := ⟨1, 1, 1, 0⟩
       let v := facetView c [[0, 0, 0, 1], [1, 1, 2, 2], [2, 3, 3, 3]]
         [[0, 0, 1, 3], [3, 4, 5, 5], [1, 2, 2, 4]] true [0, 1, 2, 3]
         (nameRows c oneTet (compositeNames [tetP2, tetRT1]) [] true)
       v.all c oneTet (compositeNames [tetP2, tetRT1]) ["u^n^2"] = [10, 11, 12, 13]) := by
  decide +kernel

/-- the old `ElementDG` list (facet names before edge names): for the repaired composite above
    (4 vertex, 6 edge, 4 facet functions per cell) the edge functions 4–7 are called `u^n^2` -/
theorem C07_dg_names_old_counterexample :
    dgNamesOld 4 6 4 (compositeElem [tetP2, tetRT1])
      = ["u^1", "u^1", "u^1", "u^1", "u^n^2", "u^n^2", "u^n^2", "u^n^2",
         "u^1", "u^1", "u^1", "u^1", "u^1", "u^1"]
    ∧ dgNames 4 6 4 (compositeElem [tetP2, tetRT1])
      = ["u^1", "u^1", "u^1", "u^1", "u^1", "u^1", "u^1", "u^1", "u^1", "u^1",
         "u^n^2", "u^n^2", "u^n^2", "u^n^2"] := by
  decide +kernel

/-- facet query, seen from a cell `k`: the DOF of its local vertex function `(lv, a)` (row
    `lv * nodal + a` of the vertex block of `element_dofs`, C04) is returned iff row `a` is kept
    and `t[lv][k]` is a vertex of a selected facet; that of its edge function `(le, b)` iff
    `t2e[le][k]` is an edge of a selected facet; that of its facet function `(lf, d)` iff
    `t2f[lf][k]` is selected -/
theorem C07_cell_closure (c : DofCounts) (tp : Topo) (facets f2e : List (List Nat)) (we : Bool)
    (ix : List Nat) (r : Rows) (hr : RowsOk' c tp r)
    (hix : ∀ f ∈ ix, f < tp.nfacets)
    (hfv : ∀ row ∈ facets, ∀ f < tp.nfacets, row.getD f 0 < tp.nverts)
    (hfe : ∀ row ∈ f2e, ∀ f < tp.nfacets, row.getD f 0 < tp.nedges) (k : Nat) :
    (∀ lv a, lv < tp.t.length → k < (tp.t.getD lv []).length → a < c.nodal →
      (tp.t.getD lv []).getD k 0 < tp.nverts →
      (((gatherRows c.nodal 0 tp.t).getD (lv * c.nodal + a) []).getD k 0
          ∈ (facetView c facets f2e we ix r).flatten c tp
        ↔ a ∈ r.nodal ∧ ∃ f ∈ ix, ∃ row ∈ facets, row.getD f 0 = (tp.t.getD lv []).getD k 0))
    ∧ (∀ le b, le < tp.t2e.length → k < (tp.t2e.getD le []).length → b < c.edge →
      useEdges c tp = true → (tp.t2e.getD le []).getD k 0 < tp.nedges →
      (((gatherRows c.edge (offEdge c tp) tp.t2e).getD (le * c.edge + b) []).getD k 0
          ∈ (facetView c facets f2e we ix r).flatten c tp
        ↔ b ∈ r.edge ∧ we = true
            ∧ ∃ f ∈ ix, ∃ row ∈ f2e, row.getD f 0 = (tp.t2e.getD le []).getD k 0))
    ∧ (∀ lf d, lf < tp.t2f.length → k < (tp.t2f.getD lf []).length → d < c.facet →
      (tp.t2f.getD lf []).getD k 0 < tp.nfacets →
      (((gatherRows c.facet (offFacet c tp) tp.t2f).getD (lf * c.facet + d) []).getD k 0
          ∈ (facetView c facets f2e we ix r).flatten c tp
        ↔ d ∈ r.facet ∧ (tp.t2f.getD lf []).getD k 0 ∈ ix)) := by
  have hchar := C07_facet_dofs c tp facets f2e we ix r hr hix hfv hfe
  simp only [RowsOk', nRowsNodal_eq, nRowsFacet_eq, lt_nRowsEdge] at hr
  obtain ⟨hN, hF, hE, _⟩ := hr
  refine ⟨?_, ?_, ?_⟩
  · intro lv a hlv hk ha hv
    rw [gatherRows_getD c.nodal 0 tp.t lv a k hlv ha hk, hchar]
    constructor
    · rintro (⟨a', ha', f, hf, row, hrow, h⟩ | ⟨_, b, _, f, _, row, _, h⟩ | ⟨d, _, f, _, h⟩)
      · obtain ⟨rfl, hv'⟩ := dofNumber_inj c.nodal 0 _ _ _ _ (hN a' ha') ha h
        exact ⟨ha', f, hf, row, hrow, hv'⟩
      · exact absurd h (Nat.ne_of_gt (nodal_lt_edge ha hv _ _))
      · exact absurd h (Nat.ne_of_gt (nodal_lt_facet ha hv _ _))
    · rintro ⟨ha', f, hf, row, hrow, h⟩
      exact Or.inl ⟨a, ha', f, hf, row, hrow, by rw [h]⟩
  · intro le b hle hk hb hue he
    rw [gatherRows_getD c.edge (offEdge c tp) tp.t2e le b k hle hb hk, hchar]
    constructor
    · rintro (⟨a', ha', f, hf, row, hrow, h⟩ | ⟨hwe, b', hb', f, hf, row, hrow, h⟩ | ⟨d, _, f, _, h⟩)
      · exact absurd h (Nat.ne_of_lt (nodal_lt_edge (hN a' ha') (hfv row hrow f (hix f hf)) _ _))
      · obtain ⟨rfl, hv'⟩ := dofNumber_inj c.edge (offEdge c tp) _ _ _ _ (hE b' hb').2 hb h
        exact ⟨hb', hwe, f, hf, row, hrow, hv'⟩
      · exact absurd h (Nat.ne_of_gt (edge_lt_facet hue hb he _ _))
    · rintro ⟨hb', hwe, f, hf, row, hrow, h⟩
      exact Or.inr (Or.inl ⟨hwe, b, hb', f, hf, row, hrow, by rw [h]⟩)
  · intro lf d hlf hk hd hfb
    rw [gatherRows_getD c.facet (offFacet c tp) tp.t2f lf d k hlf hd hk, hchar]
    constructor
    · rintro (⟨a', ha', f, hf, row, hrow, h⟩ | ⟨_, b', hb', f, hf, row, hrow, h⟩ | ⟨d', hd', f, hf, h⟩)
      · exact absurd h (Nat.ne_of_lt (nodal_lt_facet (hN a' ha') (hfv row hrow f (hix f hf)) _ _))
      · exact absurd h (Nat.ne_of_lt (edge_lt_facet (hE b' hb').1 (hE b' hb').2
          (hfe row hrow f (hix f hf)) _ _))
      · obtain ⟨rfl, hv'⟩ := dofNumber_inj c.facet (offFacet c tp) _ _ _ _ (hF d' hd') hd h
        exact ⟨hd', hv' ▸ hf⟩
    · rintro ⟨hd', hf⟩
      exact Or.inr (Or.inr ⟨d, hd', _, hf, rfl⟩)

/-- the returned DOFs control the trace, given the locality of the element.  `X` vanishes on
    the returned set (no row skipped); `trN lv a`, `trE le b`, `trF lf d`, `trI g` stand for the
    traces of the local basis functions of cell `k` at a point of a selected facet, assumed
    (`hN hE hF hI`, what C03 says of the element) non-zero only if the function's vertex, edge or
    facet lies in the closure of a selected facet, never for interior functions.  Then the sum of
    `X_d * trace` over ALL local functions of the cell (blocks of `element_dofs`, C04) is zero. -/
theorem C07_trace_controlled (c : DofCounts) (tp : Topo) (facets f2e : List (List Nat)) (we : Bool)
    (ix : List Nat) (r : Rows) (hr : RowsOk' c tp r)
    (hrN : ∀ a < c.nodal, a ∈ r.nodal) (hrE : ∀ b < c.edge, b ∈ r.edge)
    (hrF : ∀ d < c.facet, d ∈ r.facet)
    (hix : ∀ f ∈ ix, f < tp.nfacets)
    (hfv : ∀ row ∈ facets, ∀ f < tp.nfacets, row.getD f 0 < tp.nverts)
    (hfe : ∀ row ∈ f2e, ∀ f < tp.nfacets, row.getD f 0 < tp.nedges)
    (k : Nat)
    (ht : ∀ row ∈ tp.t, k < row.length ∧ row.getD k 0 < tp.nverts)
    (hte : ∀ row ∈ tp.t2e, k < row.length ∧ row.getD k 0 < tp.nedges)
    (htf : ∀ row ∈ tp.t2f, k < row.length ∧ row.getD k 0 < tp.nfacets)
    (X : Nat → Int)
    (hX : ∀ d ∈ (facetView c facets f2e we ix r).flatten c tp, X d = 0)
    (trN trE trF : Nat → Nat → Int) (trI : Nat → Int)
    (hN : ∀ lv a, trN lv a ≠ 0 →
      ∃ f ∈ ix, ∃ row ∈ facets, row.getD f 0 = (tp.t.getD lv []).getD k 0)
    (hE : ∀ le b, trE le b ≠ 0 →
      we = true ∧ ∃ f ∈ ix, ∃ row ∈ f2e, row.getD f 0 = (tp.t2e.getD le []).getD k 0)
    (hF : ∀ lf d, trF lf d ≠ 0 → (tp.t2f.getD lf []).getD k 0 ∈ ix)
    (hI : ∀ g, trI g = 0) :
    ((List.range tp.t.length).map (fun lv => ((List.range c.nodal).map (fun a =>
        X (((gatherRows c.nodal 0 tp.t).getD (lv * c.nodal + a) []).getD k 0) * trN lv a)).sum)).sum
    + ((List.range tp.t2e.length).map (fun le => ((List.range c.edge).map (fun b =>
        X (((gatherRows c.edge (offEdge c tp) tp.t2e).getD (le * c.edge + b) []).getD k 0)
          * trE le b)).sum)).sum
    + ((List.range tp.t2f.length).map (fun lf => ((List.range c.facet).map (fun d =>
        X (((gatherRows c.facet (offFacet c tp) tp.t2f).getD (lf * c.facet + d) []).getD k 0)
          * trF lf d)).sum)).sum
    + ((List.range c.interior).map (fun g =>
        X (((interiorDofs c tp).getD g []).getD k 0) * trI g)).sum = 0 := by
  obtain ⟨hcN, hcE, hcF⟩ := C07_cell_closure c tp facets f2e we ix r hr hix hfv hfe k
  have hedge := fun b hb => lt_nRowsEdge.mp (hr.2.2.1 b hb)
  -- termwise: a non-zero trace puts the entity in the closure of a selected facet, so the DOF is
  -- returned (`C07_cell_closure`) and `X` is zero there
  have term : ∀ {x t : Int}, (t ≠ 0 → x = 0) → x * t = 0 := fun h =>
    Int.mul_eq_zero.mpr (Decidable.or_iff_not_imp_right.mpr h)
  rw [sum_sum_zero (fun lv hlv a ha => term (fun h0 =>
      have ⟨hk, hv⟩ := ht _ (getD_mem tp.t [] hlv)
      hX _ ((hcN lv a hlv hk ha hv).mpr ⟨hrN a ha, hN lv a h0⟩))),
    sum_sum_zero (fun le hle b hb => term (fun h0 =>
      have ⟨hk, hv⟩ := hte _ (getD_mem tp.t2e [] hle)
      have ⟨hwe, hcl⟩ := hE le b h0
      hX _ ((hcE le b hle hk hb (hedge b (hrE b hb)).1 hv).mpr ⟨hrE b hb, hwe, hcl⟩))),
    sum_sum_zero (fun lf hlf d hd => term (fun h0 =>
      have ⟨hk, hv⟩ := htf _ (getD_mem tp.t2f [] hlf)
      hX _ ((hcF lf d hlf hk hd hv).mpr ⟨hrF d hd, hF lf d h0⟩))),
    sum_map_zero (fun g _ => by rw [hI g, Int.mul_zero])]
  rfl

/-- without `skip`, the cell query returns exactly the entries of the columns `ix` of
    `element_dofs` (the per-cell table of C04) -/
theorem C07_element_dofs_columns (c : DofCounts) (tp : Topo) (dn : List String) (ix : List Nat)
    (hix : ∀ k ∈ ix, k < tp.nt)
    (ht : ∀ row ∈ tp.t, row.length = tp.nt ∧ ∀ k < tp.nt, row.getD k 0 < tp.nverts)
    (hf : ∀ row ∈ tp.t2f, row.length = tp.nt ∧ ∀ k < tp.nt, row.getD k 0 < tp.nfacets)
    (he : ∀ row ∈ tp.t2e, row.length = tp.nt ∧ ∀ k < tp.nt, row.getD k 0 < tp.nedges)
    (hdim : c.facet > 0 → tp.dim ≥ 2) (x : Nat) :
    x ∈ (elementView c tp ix (nameRows c tp dn [] true)).flatten c tp ↔
      ∃ k ∈ ix, ∃ row ∈ elementDofs c tp, row.getD k 0 = x := by
  have hl : ∀ {conn : List (List Nat)} {n : Nat},
      (∀ row ∈ conn, row.length = tp.nt ∧ ∀ k < tp.nt, row.getD k 0 < n) →
      ∀ row ∈ conn, ∀ k ∈ ix, k < row.length :=
    fun h row hrow k hk => (h row hrow).1 ▸ hix k hk
  have hswap : (∃ k ∈ ix, ∃ row ∈ elementDofs c tp, row.getD k 0 = x) ↔
      ∃ row ∈ elementDofs c tp, ∃ k ∈ ix, row.getD k 0 = x :=
    ⟨fun ⟨k, hk, R, hR, h⟩ => ⟨R, hR, k, hk, h⟩, fun ⟨R, hR, k, hk, h⟩ => ⟨k, hk, R, hR, h⟩⟩
  -- both sides block by block
  rw [C07_element_dofs c tp ix _ (nameRows_ok c tp dn [] true) hix (fun row h => (ht row h).2)
    (fun row h => (hf row h).2) (fun row h => (he row h).2) x, C07_no_skip_all_rows, hswap,
    exists_mem_elementDofs, exists_getD_gatherRows (hl ht), exists_getD_gatherRows (hl he),
    exists_getD_gatherRows (hl hf), interiorDofs, exists_getD_dofTable hix]
  simp only [List.mem_range, nRowsNodal_eq, nRowsFacet_eq, nRowsInterior_eq, lt_nRowsEdge, and_assoc,
    exists_and_left]
  -- the blocks stand in another order, and facet rows exist only where `element_dofs` stacks the block
  refine or_congr_right ?_
  rw [or_left_comm]
  refine or_congr_right (or_congr_left ⟨?_, fun h => h.2.2⟩)
  rintro ⟨d, hd, h⟩
  exact ⟨hdim (Nat.zero_lt_of_lt hd), decide_eq_true (Nat.zero_lt_of_lt hd), d, hd, h⟩

/-- P2 on two triangles sharing an edge (4 vertices, 5 facets; `MeshTri().facets`) -/
def twoTri : Topo :=
  { dim := 2, nverts := 4, nedges := 0, nfacets := 5, nt := 2,
    t := [[0, 1], [1, 2], [2, 3]], t2e := [], t2f := [[0, 2], [2, 4], [1, 3]] }

/-- facets of `twoTri` (rows: first and second vertex) -/
def twoTriFacets : List (List Nat) := [[0, 0, 1, 1, 2], [1, 2, 2, 3, 3]]

example : RowsOk' ⟨1, 0, 1, 0⟩ twoTri (nameRows ⟨1, 0, 1, 0⟩ twoTri ["u", "u"] [] true) :=
  nameRows_ok _ _ _ _ _

-- the hypotheses of `C07_facet_dofs` / `C07_cell_closure` on this mesh
example : (∀ f ∈ [4, 0, 0], f < twoTri.nfacets)
    ∧ (∀ row ∈ twoTriFacets, ∀ f < twoTri.nfacets, row.getD f 0 < twoTri.nverts)
    ∧ (∀ row ∈ ([] : List (List Nat)), ∀ f < twoTri.nfacets, row.getD f 0 < twoTri.nedges) := by
  decide

-- unsorted index array with a repetition: vertex DOFs 0,1,2,3 of facets 0 = (0,1) and 4 = (2,3),
-- facet DOFs 4+0, 4+4
example : (facetView ⟨1, 0, 1, 0⟩ twoTriFacets [] false [4, 0, 0]
    (nameRows ⟨1, 0, 1, 0⟩ twoTri ["u", "u"] [] true)).flatten ⟨1, 0, 1, 0⟩ twoTri
    = [0, 1, 2, 3, 4, 8] := by decide

example : (elementView ⟨1, 0, 1, 0⟩ twoTri [1]
    (nameRows ⟨1, 0, 1, 0⟩ twoTri ["u", "u"] [] true)).flatten ⟨1, 0, 1, 0⟩ twoTri
    = [1, 2, 3, 6, 7, 8] := by decide
example : (vertexView [3, 1]
    (nameRows ⟨1, 0, 1, 0⟩ twoTri ["u", "u"] [] true)).flatten ⟨1, 0, 1, 0⟩ twoTri = [1, 3] := by
  decide
example : complementDofs 9 [[0, 1, 2, 3], [4, 8, 8]] = [5, 6, 7] := by decide
example : normalize .facets [("left", [1, 0])] [0, 1, 3, 4] 5
    (.coll [.tag "left", .pred [false, false, false, false, true], .int 0])
    = some [0, 1, 4] := by decide +kernel
example : normalize .facets [] [0, 1, 3, 4] 5 .none = some [0, 1, 3, 4] := by decide
example : normalize .facets [] [] 5 (.tag "nope") = none := by decide
example : WF tetP2 ∧ WF tetRT1 ∧ WF (compositeElem [tetP2, tetRT1]) := by
  unfold WF; decide
-- Morley-type names: keep 'u_n' selects the facet DOFs only
example : (facetView ⟨1, 0, 1, 0⟩ twoTriFacets [] false [0]
    (nameRows ⟨1, 0, 1, 0⟩ twoTri ["u", "u_n"] [] true)).all ⟨1, 0, 1, 0⟩ twoTri ["u", "u_n"] ["u_n"]
    = [4] := by decide +kernel

-- `C07_trace_controlled` for P2 on `twoTri`: selected facet 0 = (0, 1), cell 0 = vertices (0, 1, 2)
-- with facets (0, 2, 1), returned DOFs [0, 1, 4]; `X` is 1 elsewhere; the functions of vertices
-- 0, 1 and of local facet 0 have trace 1, the others 0
example :
    let c : DofCounts := ⟨1, 0, 1, 0⟩
    let X : Nat → Int := fun d => if d ∈ [0, 1, 4] then 0 else 1
    let trN : Nat → Nat → Int := fun lv _ => if lv < 2 then 1 else 0
    let trF : Nat → Nat → Int := fun lf _ => if lf = 0 then 1 else 0
    ((List.range twoTri.t.length).map (fun lv => ((List.range c.nodal).map (fun a =>
        X (((gatherRows c.nodal 0 twoTri.t).getD (lv * c.nodal + a) []).getD 0 0) * trN lv a)).sum)).sum
    + ((List.range twoTri.t2e.length).map (fun le => ((List.range c.edge).map (fun b =>
        X (((gatherRows c.edge (offEdge c twoTri) twoTri.t2e).getD (le * c.edge + b) []).getD 0 0)
          * (0 : Int))).sum)).sum
    + ((List.range twoTri.t2f.length).map (fun lf => ((List.range c.facet).map (fun d =>
        X (((gatherRows c.facet (offFacet c twoTri) twoTri.t2f).getD (lf * c.facet + d) []).getD 0 0)
          * trF lf d)).sum)).sum
    + ((List.range c.interior).map (fun g =>
        X (((interiorDofs c twoTri).getD g []).getD 0 0) * (0 : Int))).sum = 0 := by
  intro c X trN trF
  refine C07_trace_controlled c twoTri twoTriFacets [] false [0]
    (nameRows c twoTri ["u", "u"] [] true) (nameRows_ok _ _ _ _ _)
    (by decide) (by decide) (by decide) (by decide) (by decide) (by decide) 0
    (by decide) (by decide) (by decide) X ?_ trN (fun _ _ => 0) trF (fun _ => 0) ?_ ?_ ?_ ?_
  · decide
  · intro lv a h
    have hlv : lv < 2 := Decidable.by_contra fun h2 => h (if_neg h2)
    refine ⟨0, by simp, ?_⟩
    rcases (by omega : lv = 0 ∨ lv = 1) with rfl | rfl
    · exact ⟨[0, 0, 1, 1, 2], by simp [twoTriFacets], by decide⟩
    · exact ⟨[1, 2, 2, 3, 3], by simp [twoTriFacets], by decide⟩
  · intro le b h
    exact absurd rfl h
  · intro lf d h
    obtain rfl : lf = 0 := Decidable.by_contra fun h0 => h (if_neg h0)
    decide
  · intro g
    rfl

end Skv.C07
