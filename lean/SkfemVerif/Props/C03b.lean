import SkfemVerif.Model.Poly
import SkfemVerif.Gen.TraceFacts
import SkfemVerif.Props.C09
import SkfemVerif.Lemmas.Traces
/-
C03 (second part)  H1 continuity from the trace tables.

`Gen/TraceFacts.lean` (regenerated from the live `lbasis` on every run) holds, for every traceable
conforming H1 element on triangles, quadrilaterals and tetrahedra, the kernel-checked facts
`checkTraceTable vals fmaps keys tol` (the restriction of basis function `i` to reference facet `f`
vanishes when `keys[f][i] = none`, and is the same polynomial in the facet parameters for all
`(f, i)` carrying the same key) and `checkKeys keys` (each key once per facet, same keys on every
facet).  This file says what a passed table means: with tolerance 0, continuity of `u_h` across a
shared facet (`C03_h1_continuous`); for the generated tables, checked with tolerance `2^-40`, the
bound `C03_generated_traces`.

The reference facet is parametrised in the order of `refdom.facets`, from the lower to the higher
LOCAL vertex; on meshes whose cells list their vertices in ascending global order (`sort_t=True`)
that is the same affine map of the physical facet from both neighbours.  This is the hypothesis
`hmatch` below (functions with equal keys on the two sides are attached to the same global DOF,
from C04/C11); it is not derived in Lean.

`facetPoint origin dirs s` (the point `origin + Σ_k s_k · dirs_k`), `traceAt` (the one-sided trace
of `u_h = Σ_i x[dof i] φ_i` on a reference facet) and `WFElem` are defined in `Lemmas/Traces.lean`.
-/
namespace Skv.C03b

/-- evaluating the symbolic restriction `p ∘ γ` at the facet parameters `s` is evaluating `p` at the
    point `γ(s)`.  `hd` is not needed: `getD` pads short direction vectors with 0 on both sides. -/
theorem C03_substAffine_sound (p : Poly) (origin : List ℚ) (dirs : List (List ℚ)) (s : List ℚ)
    (hp : ∀ t ∈ p, t.2.length = origin.length) (hd : ∀ d ∈ dirs, d.length = origin.length)
    (hs : s.length = dirs.length) :
    (p.substAffine origin dirs).eval s = p.eval (facetPoint origin dirs s) :=
  eval_substAffine p origin dirs s hp hs

/-- `tr f i` at `s` is `φ_i` at `γ_f(s)` -/
theorem eval_tr (dim : Nat) (vals : List Poly) (fmaps : List (List ℚ × List (List ℚ)))
    (hwf : WFElem dim vals fmaps) (f i : Nat) (hf : f < fmaps.length) (hi : i < vals.length)
    (s : List ℚ) (hs : s.length = ((fmaps.getD f ([], [])).2).length) :
    (tr vals fmaps f i).eval s
      = (vals.getD i []).eval (facetPoint (fmaps.getD f ([], [])).1 (fmaps.getD f ([], [])).2 s) := by
  exact eval_substAffine _ _ _ s
    (fun t ht => by rw [hwf.1 _ (getD_mem vals [] hi) t ht, (hwf.2 _ (getD_mem fmaps _ hf)).1]) hs

/-- if the table check passes with tolerance 0, a function without key on facet `f` vanishes on it -/
theorem C03_unattached_vanish (dim : Nat) (vals : List Poly) (fmaps : List (List ℚ × List (List ℚ)))
    (keys : List (List (Option Nat))) (hwf : WFElem dim vals fmaps)
    (h : checkTraceTable vals fmaps keys 0 = true) (f i : Nat) (hf : f < fmaps.length) (hi : i < vals.length)
    (hk : (keys.getD f []).getD i none = none) (s : List ℚ)
    (hs : s.length = ((fmaps.getD f ([], [])).2).length) :
    (vals.getD i []).eval (facetPoint (fmaps.getD f ([], [])).1 (fmaps.getD f ([], [])).2 s) = 0 := by
  obtain ⟨_, _, hent⟩ := checkTraceTable_spec vals fmaps keys 0 h
  have hc := entryOk_none vals fmaps keys 0 f i hk (hent f i hf hi)
  rw [← eval_tr dim vals fmaps hwf f i hf hi s hs, close_zero_eval _ _ hc s]
  rfl

/-- functions carrying the same key are both compared with the first pair carrying it, hence close
    to each other with twice the tolerance -/
theorem close_of_equal_keys (vals : List Poly) (fmaps : List (List ℚ × List (List ℚ)))
    (keys : List (List (Option Nat))) (tol : ℚ) (htol : 0 ≤ tol)
    (h : checkTraceTable vals fmaps keys tol = true) (f i f' i' k : Nat)
    (hf : f < fmaps.length) (hi : i < vals.length) (hf' : f' < fmaps.length) (hi' : i' < vals.length)
    (hk : (keys.getD f []).getD i none = some k) (hk' : (keys.getD f' []).getD i' none = some k) :
    Poly.close (tr vals fmaps f i) (tr vals fmaps f' i') (tol + tol) = true := by
  obtain ⟨_, _, hent⟩ := checkTraceTable_spec vals fmaps keys tol h
  obtain ⟨g, j, hg, hc⟩ := entryOk_some vals fmaps keys tol f i k hk (hent f i hf hi)
  obtain ⟨g', j', hg', hc'⟩ := entryOk_some vals fmaps keys tol f' i' k hk' (hent f' i' hf' hi')
  obtain ⟨rfl, rfl⟩ := Prod.mk.inj (Option.some.inj (hg'.symm.trans hg))
  exact close_trans _ _ _ _ _ hc hc' htol htol

/-- tolerance 0: functions carrying the same key on two facets have the same restriction, as functions
    of the facet parameters -/
theorem C03_equal_keys_equal_traces (dim : Nat) (vals : List Poly) (fmaps : List (List ℚ × List (List ℚ)))
    (keys : List (List (Option Nat))) (hwf : WFElem dim vals fmaps)
    (h : checkTraceTable vals fmaps keys 0 = true) (f i f' i' k : Nat)
    (hf : f < fmaps.length) (hi : i < vals.length) (hf' : f' < fmaps.length) (hi' : i' < vals.length)
    (hk : (keys.getD f []).getD i none = some k) (hk' : (keys.getD f' []).getD i' none = some k)
    (s : List ℚ) (hs : s.length = ((fmaps.getD f ([], [])).2).length)
    (hs' : s.length = ((fmaps.getD f' ([], [])).2).length) :
    (vals.getD i []).eval (facetPoint (fmaps.getD f ([], [])).1 (fmaps.getD f ([], [])).2 s)
      = (vals.getD i' []).eval (facetPoint (fmaps.getD f' ([], [])).1 (fmaps.getD f' ([], [])).2 s) := by
  rw [← eval_tr dim vals fmaps hwf f i hf hi s hs, ← eval_tr dim vals fmaps hwf f' i' hf' hi' s hs']
  exact close_zero_eval _ _ (add_zero (0 : ℚ) ▸
    close_of_equal_keys vals fmaps keys 0 le_rfl h f i f' i' k hf hi hf' hi' hk hk') s

/-- H1 continuity across a shared facet, tolerance 0.  Two cells see the facet as their local facets
    `f` and `f'`; `dof`, `dof'` are their local-to-global DOF maps.  If functions with equal keys are
    attached to the same global DOF (`hmatch`), the two one-sided traces coincide for EVERY
    coefficient vector `x` at EVERY facet parameter `s`. -/
theorem C03_h1_continuous (dim : Nat) (vals : List Poly) (fmaps : List (List ℚ × List (List ℚ)))
    (keys : List (List (Option Nat))) (hwf : WFElem dim vals fmaps)
    (h : checkTraceTable vals fmaps keys 0 = true) (hkeys : checkKeys keys = true)
    (f f' : Nat) (hf : f < fmaps.length) (hf' : f' < fmaps.length)
    (dof dof' : Nat → Nat)
    (hmatch : ∀ i i' k, i < vals.length → i' < vals.length →
      (keys.getD f []).getD i none = some k → (keys.getD f' []).getD i' none = some k → dof i = dof' i')
    (x : Nat → ℚ) (s : List ℚ) (hs : s.length = ((fmaps.getD f ([], [])).2).length)
    (hs' : s.length = ((fmaps.getD f' ([], [])).2).length) :
    traceAt vals fmaps dof x f s = traceAt vals fmaps dof' x f' s := by
  obtain ⟨hlen, hrows, _⟩ := checkTraceTable_spec vals fmaps keys 0 h
  obtain ⟨hnd, hsame⟩ := checkKeys_spec keys hkeys
  have hrm : keys.getD f [] ∈ keys := getD_mem keys [] (hlen ▸ hf)
  have hrm' : keys.getD f' [] ∈ keys := getD_mem keys [] (hlen ▸ hf')
  unfold traceAt
  refine sum_eq_of_same_keys _ _ (hrows _ hrm) (hrows _ hrm') (hnd _ hrm) (hnd _ hrm') (hsame _ hrm _ hrm')
    _ _ (fun i hi hk => ?_) (fun i hi hk => ?_) (fun i i' k hi hi' hk hk' => ?_)
  · rw [C03_unattached_vanish dim vals fmaps keys hwf h f i hf hi hk s hs, mul_zero]
  · rw [C03_unattached_vanish dim vals fmaps keys hwf h f' i hf' hi hk s hs', mul_zero]
  · rw [hmatch i i' k hi hi' hk hk',
      C03_equal_keys_equal_traces dim vals fmaps keys hwf h f i f' i' k hf hi hf' hi' hk hk' s hs hs']

theorem shapeTol_nonneg : (0 : ℚ) ≤ Gen.Shapes.shapeTol := by
  unfold Gen.Shapes.shapeTol
  exact Rat.mkRat_nonneg (by norm_num) _

/-- a table that passes with one tolerance passes with every larger one -/
theorem C03_checkTraceTable_mono (vals : List Poly) (fmaps : List (List ℚ × List (List ℚ)))
    (keys : List (List (Option Nat))) (tol tol' : ℚ) (hle : tol ≤ tol')
    (h : checkTraceTable vals fmaps keys tol = true) : checkTraceTable vals fmaps keys tol' = true := by
  rw [checkTraceTable_eq_byFacet] at h ⊢
  simp only [checkTraceTableByFacet, Bool.and_eq_true, List.all_eq_true] at h ⊢
  exact ⟨h.1, fun f hf i hi => entryOk_mono vals fmaps keys tol tol' hle f i (h.2 f hf i hi)⟩

/-- the generated elements (tolerance `shapeTol = 2^-40`): functions with equal keys have traces that
    differ by at most `2 · shapeTol` times the number of terms, for `s` in the unit box.  The summand
    `2 * (E.1.length * E.2.1.length)` of the bound is slack: the proof drops it in its last step. -/
theorem C03_generated_traces (E : List Poly × List (List ℚ × List (List ℚ)) × List (List (Option Nat)))
    (hE : E ∈ Gen.Shapes.traceElements) (f i f' i' k : Nat)
    (hf : f < E.2.1.length) (hi : i < E.1.length) (hf' : f' < E.2.1.length) (hi' : i' < E.1.length)
    (hk : (E.2.2.getD f []).getD i none = some k) (hk' : (E.2.2.getD f' []).getD i' none = some k)
    (s : List ℚ) (hs : ∀ c ∈ s, 0 ≤ c ∧ c ≤ 1) :
    |((E.1.getD i []).substAffine (E.2.1.getD f ([], [])).1 (E.2.1.getD f ([], [])).2).eval s
      - ((E.1.getD i' []).substAffine (E.2.1.getD f' ([], [])).1 (E.2.1.getD f' ([], [])).2).eval s|
      ≤ 2 * Gen.Shapes.shapeTol *
        ((((E.1.getD i []).substAffine (E.2.1.getD f ([], [])).1 (E.2.1.getD f ([], [])).2).length
          + ((E.1.getD i' []).substAffine (E.2.1.getD f' ([], [])).1 (E.2.1.getD f' ([], [])).2).length
          + 2 * (E.1.length * E.2.1.length) : Nat) : ℚ) := by
  have hcl := close_of_equal_keys E.1 E.2.1 E.2.2 _ shapeTol_nonneg (Gen.Shapes.traceElements_ok E hE)
    f i f' i' k hf hi hf' hi' hk hk'
  refine le_trans (C09.C09_close_sound _ _ _ hcl s hs) ?_
  rw [← two_mul]
  exact mul_le_mul_of_nonneg_left (Nat.cast_le.mpr (Nat.le_add_right _ _))
    (mul_nonneg zero_le_two shapeTol_nonneg)

example : Gen.Shapes.traceElements ≠ [] := by decide
example : checkKeys Gen.Shapes.ElementTriP2_keys = true := Gen.Shapes.ElementTriP2_keys_ok

end Skv.C03b
