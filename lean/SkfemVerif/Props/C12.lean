import SkfemVerif.Lemmas.RefineUniform
import SkfemVerif.Lemmas.RefineUniformGeom
import SkfemVerif.Lemmas.RefineUniformConform
import SkfemVerif.Lemmas.RefineUniformBoundary
/-
C12  Uniform refinement preserves domain, conformity and named regions.

Model: `Skv.Refine.uniform`, `refinedOnce`, `refined` (Model/RefineUniform.lean) = `Mesh.refined(k)`
and the `_uniform` methods of `MeshLine1`, `MeshTri1`, `MeshQuad1`, `MeshTet1`, `MeshHex1`
(and, through `uniformSecond`, of the second-order classes), with the connectivity tables
`t2f`/`t2e` computed by the C11 model `buildEntities`.  Tie: correspondence ops `refine.uniform`
(exact against `m.refined(k)`), `refine.parents` (against the geometric parents found by the
search oracle), `refine.tables` (reference tables against the live `refdom`).

The geometric theorems are polynomial identities in arbitrary rational vertex coordinates of the
parent, not facts about the reference cell.

NOT formalised (search only): the step from "children inside the parent ∧ measures add up ∧
interior child facets pair up" to "the children tile the parent" (standard degree argument), and
that the refined facet numbering of segments keeps the old facet indices (`MeshLine1` keeps
`_boundaries` unchanged).
-/
namespace Skv.C12
open Skv.Refine

/-- one pass multiplies the number of cells by `2^d` (`nchild` = 2, 4, 4, 8, 8); for tetrahedra
    this uses that the three diagonal masks select every cell exactly once -/
theorem C12_count (kd : Kind) (m : MeshData) :
    (refinedOnce kd m).cells.length = kd.nchild * m.cells.length ∧ kd.nchild = 2 ^ kd.dim :=
  ⟨refinedOnce_cells_length kd m, by cases kd <;> rfl⟩

/-- `k` passes: `2^(d k)` times as many cells -/
theorem C12_iterate_count (kd : Kind) (n : Nat) (m : MeshData) :
    (refined kd n m).cells.length = (2 ^ kd.dim) ^ n * m.cells.length := by
  induction n generalizing m with
  | zero => simp [refined]
  | succ n ih => rw [refined, ih, (C12_count kd m).1, (C12_count kd m).2, Nat.pow_succ, Nat.mul_assoc]

/-- the old vertices keep index and position: `p` is a prefix of the new point array, after any
    number of passes -/
theorem C12_old_vertices (kd : Kind) (n : Nat) (m : MeshData) :
    ∃ new, (refined kd n m).p = m.p ++ new := by
  induction n generalizing m with
  | zero => exact ⟨[], (List.append_nil _).symm⟩
  | succ n ih =>
    obtain ⟨new, h⟩ := ih (refinedOnce kd m)
    exact ⟨newPts kd m ++ new, by rw [refined, h, refinedOnce, refinedOnceWith_p, uniform, List.append_assoc]⟩

/-- one new vertex per cell (line), facet (tri), facet and cell (quad), edge (tet), edge, face and
    cell (hex) -/
theorem C12_new_vertex_count (m : MeshData) :
    (uniform .line m).p.length = m.p.length + m.cells.length ∧
    (uniform .tri m).p.length = m.p.length + (facetTable .tri m).1.length ∧
    (uniform .quad m).p.length = m.p.length + (facetTable .quad m).1.length + m.cells.length ∧
    (uniform .tet m).p.length = m.p.length + (edgeTable .tet m).1.length ∧
    (uniform .hex m).p.length
      = m.p.length + (edgeTable .hex m).1.length + (facetTable .hex m).1.length + m.cells.length := by
  simp [uniform, newPts, length_midpoints, Nat.add_assoc]

/-- the point that carries the number of a valid word `w` (`Src.ok`) of cell `k` sits at the mean of
    the vertices of the entity of `k` that `w` names: parent vertices where they were,
    `sz + t2f[j][k]` at the midpoint of local facet `j`, `sz + t2e[j][k]` at the midpoint of local
    edge `j`, ….  By `C12_template_words_ok` the vertices of all new cells are such words. -/
theorem C12_new_vertices (kd : Kind) (m : MeshData) (k : Nat) (hk : k < m.cells.length)
    (hv : ∀ v ∈ m.cells.getD k [], v < m.p.length)
    (hlen : (m.cells.getD k []).length = kd.nverts) (w : Src) (hw : w.ok kd = true) :
    (uniform kd m).p.getD ((envOf kd m).num k w) [] = wordPt kd (gather m.p (m.cells.getD k [])) w := by
  have hnt : 0 < m.cells.length := by omega
  have hlt : ∀ ent ∈ kd.edges ++ kd.facets, ∀ i ∈ ent, i < (m.cells.getD k []).length :=
    fun ent he => hlen ▸ (Kind.entities_ok kd ent he).2
  -- the new points come in blocks: edge, facet, cell midpoints (those the class has); a block starts where the
  -- lists before it end, which is what `ebase`, `fbase`, `cbase` say (`np.max(table) + 1` = number of entities)
  cases w with
  | v i =>
    have hi : i < (m.cells.getD k []).length := by rw [hlen]; simpa [Src.ok] using hw
    rw [uniform, Env.num, envOf_cells, getD_append_left _ _ _ (hv _ (getD_mem _ 0 hi))]
    exact (getD_map_of_lt (fun v => m.p.getD v []) _ i [] 0 hi).symm
  | e j =>
    have hj : j < kd.edges.length := by simpa [Src.ok] using hw
    obtain ⟨h1, h2⟩ := entity_mid_pos kd.dim m.p _ _ true j k hj hk
      (hlt _ (List.mem_append_left _ (getD_mem _ [] hj)))
    cases kd with
    | tet => exact (getD_append_right rfl ..).trans h2
    | hex =>
      exact ((getD_append_right rfl ..).trans ((getD_append_left _ _ _ (by
        rw [List.length_append]; exact Nat.lt_add_right _ h1)).trans (getD_append_left _ _ _ h1))).trans h2
    | _ => exact absurd hj (Nat.not_lt_zero _)
  | f j =>
    simp only [Src.ok, Bool.and_eq_true, Bool.or_eq_true, beq_iff_eq, decide_eq_true_eq] at hw
    obtain ⟨h1, h2⟩ := entity_mid_pos kd.dim m.p _ _ (kd != .hex) j k hw.2 hk
      (hlt _ (List.mem_append_right _ (getD_mem _ [] hw.2)))
    rcases hw.1 with (rfl | rfl) | rfl
    · exact (getD_append_right rfl ..).trans h2
    · exact ((getD_append_right rfl ..).trans (getD_append_left _ _ _ h1)).trans h2
    · have hE : (m.p ++ midpoints 3 m.p (edgeTable .hex m).1).length = (envOf .hex m).fbase := by
        have := listMax_edgeTable m hnt
        simp only [envOf, List.length_append, length_midpoints]
        omega
      simp only [uniform, newPts, ← List.append_assoc]
      refine ((getD_append_left _ _ _ ?_).trans (getD_append_right hE ..)).trans h2
      rw [List.length_append, hE]
      exact Nat.add_lt_add_left h1 _
  | c =>
    simp only [Src.ok, Bool.or_eq_true, beq_iff_eq] at hw
    refine Eq.trans ?_ (getD_map_of_lt (fun ent => meanPts kd.dim (gather m.p ent)) _ k [] [] hk)
    rcases hw with (rfl | rfl) | rfl
    · exact getD_append_right rfl ..
    · simp only [uniform, newPts, ← List.append_assoc]
      refine getD_append_right ?_ ..
      have := listMax_facetTable .quad m hnt
      simp only [envOf, List.length_append, length_midpoints]
      omega
    · simp only [uniform, newPts, ← List.append_assoc]
      refine getD_append_right ?_ ..
      have := listMax_facetTable .hex m hnt
      have := listMax_edgeTable m hnt
      simp only [envOf, List.length_append, length_midpoints]
      omega

/-- every word used by a template is valid -/
theorem C12_template_words_ok :
    (∀ w ∈ lineT, ∀ x ∈ w, x.ok .line = true) ∧ (∀ w ∈ triT, ∀ x ∈ w, x.ok .tri = true) ∧
    (∀ w ∈ quadT, ∀ x ∈ w, x.ok .quad = true) ∧ (∀ w ∈ hexT, ∀ x ∈ w, x.ok .hex = true) ∧
    (∀ T ∈ tmpls .tet, ∀ w ∈ T, ∀ x ∈ w, x.ok .tet = true) := by
  decide

/-- the parent of the new cell `j` is cell `j % nt` for triangles, quadrilaterals, hexahedra and
    the corner children of tetrahedra (`np.hstack` of blocks), cell `j / 2` for segments -/
theorem C12_child_layout (m : MeshData) (j : Nat) :
    (j < 4 * m.cells.length → (parentsOf .tri m).getD j 0 = j % m.cells.length) ∧
    (j < 4 * m.cells.length → (parentsOf .quad m).getD j 0 = j % m.cells.length) ∧
    (j < 8 * m.cells.length → (parentsOf .hex m).getD j 0 = j % m.cells.length) ∧
    (j < 2 * m.cells.length → (parentsOf .line m).getD j 0 = j / 2) ∧
    (j < 4 * m.cells.length → (parentsOf .tet m).getD j 0 = j % m.cells.length) := by
  refine ⟨blockLayout_parent_mod _ triT j, blockLayout_parent_mod _ quadT j, blockLayout_parent_mod _ hexT j,
    fun h => parentsOf_line_getD _ j (Nat.mul_comm .. ▸ h), fun h => ?_⟩
  -- the corner children are a block layout of their own, in front of the inner children
  show ((blockLayout _ tetCornerT ++ _).map (·.1)).getD j 0 = _
  rw [List.map_append, getD_append_left _ _ _ (by rw [List.length_map, length_blockLayout]; exact h)]
  exact blockLayout_parent_mod _ tetCornerT j h

/-- the parent of every new cell is a cell of the old mesh -/
theorem C12_parent_exists (kd : Kind) (m : MeshData) (j : Nat) (hj : j < (refinedOnce kd m).cells.length) :
    (parentsOf kd m).getD j 0 < m.cells.length := by
  rw [refinedOnce_cells_length] at hj
  have hnt : 0 < m.cells.length := Nat.pos_of_ne_zero fun h => by simp [h] at hj
  cases kd with
  | line => rw [(C12_child_layout m j).2.2.2.1 hj]; exact Nat.div_lt_of_lt_mul hj
  | tri => rw [(C12_child_layout m j).1 hj]; exact Nat.mod_lt _ hnt
  | quad => rw [(C12_child_layout m j).2.1 hj]; exact Nat.mod_lt _ hnt
  | hex => rw [(C12_child_layout m j).2.2.1 hj]; exact Nat.mod_lt _ hnt
  | tet =>
    revert j
    rw [forall_lt_mul_iff]
    intro i k hi hk
    have hp := tetMaskLists_partition (m.p ++ newPts .tet m) (envOf .tet m) m.cells.length
    rw [show (parentsOf .tet m).getD _ 0 = _ from tetParents_getD hp i k hi hk]
    split
    · exact hk
    · exact List.mem_range.mp ((tetOrder_perm hp).mem_iff.mp (getD_mem _ 0 ((length_tetOrder hp).symm ▸ hk)))

/-- the masks `c1, c2, c3` of `MeshTet1._uniform` select exactly one inner diagonal for every
    triple of lengths (transitivity excludes the two patterns of comparisons for which no mask,
    hence only four children, would result) -/
theorem C12_tet_choice_total (d1 d2 d3 : Rat) :
    ((tetMasks d1 d2 d3).1 = true ∧ (tetMasks d1 d2 d3).2.1 = false ∧ (tetMasks d1 d2 d3).2.2 = false) ∨
    ((tetMasks d1 d2 d3).1 = false ∧ (tetMasks d1 d2 d3).2.1 = true ∧ (tetMasks d1 d2 d3).2.2 = false) ∨
    ((tetMasks d1 d2 d3).1 = false ∧ (tetMasks d1 d2 d3).2.1 = false ∧ (tetMasks d1 d2 d3).2.2 = true) :=
  tetMasks_one d1 d2 d3

/-- segments: both children have half the signed length -/
theorem C12_line_template (a b : Rat) :
    lineT.map (fun w => simplexMeasure .line (childPts .line [[a], [b]] w))
      = [simplexMeasure .line [[a], [b]] / 2, simplexMeasure .line [[a], [b]] / 2] := by
  simp only [lineT, childPts, wordPt, Kind.dim, List.map_cons, List.map_nil, List.getD_cons_zero,
    List.getD_cons_succ, meanPts_pair, List.length_cons, List.length_nil, Nat.reduceAdd, List.zipWith_cons_cons, List.zipWith_nil_left, simplexMeasure, co, List.cons.injEq, and_true]
  constructor <;> ring

/-- triangles: the four children have signed area `+1/4, -1/4, +1/4, +1/4` of the parent's -/
theorem C12_tri_template (x0 y0 x1 y1 x2 y2 : Rat) :
    triT.map (fun w => simplexMeasure .tri (childPts .tri [[x0, y0], [x1, y1], [x2, y2]] w))
      = [1, -1, 1, 1].map (fun s => s * simplexMeasure .tri [[x0, y0], [x1, y1], [x2, y2]] / 4) := by
  simp only [triT, childPts, wordPt, Kind.dim, Kind.facets, triFacets, List.map_cons, List.map_nil,
    List.getD_cons_zero, List.getD_cons_succ, meanPts_pair, List.length_cons, List.length_nil, Nat.reduceAdd, List.zipWith_cons_cons, List.zipWith_nil_left, simplexMeasure, co, List.cons.injEq, and_true]
  refine ⟨?_, ?_, ?_, ?_⟩ <;> ring

/-- tetrahedra: each corner child and each inner child, for all three choices of the inner
    diagonal, has signed volume `± 1/8` of the parent's (signs `tetSigns`) -/
theorem C12_tet_template (x0 y0 z0 x1 y1 z1 x2 y2 z2 x3 y3 z3 : Rat) :
    [tetCornerT, tetMidT 0, tetMidT 1, tetMidT 2].map (fun T => T.map (fun w =>
        simplexMeasure .tet (childPts .tet [[x0, y0, z0], [x1, y1, z1], [x2, y2, z2], [x3, y3, z3]] w)))
      = tetSigns.map (fun r => r.map (fun s =>
          s * simplexMeasure .tet [[x0, y0, z0], [x1, y1, z1], [x2, y2, z2], [x3, y3, z3]] / 8)) := by
  simp only [tetCornerT, tetMidT, tetSigns, childPts, wordPt, Kind.dim, Kind.edges, tetEdges, List.map_cons,
    List.map_nil, List.getD_cons_zero, List.getD_cons_succ, meanPts_pair, List.length_cons, List.length_nil, Nat.reduceAdd, List.zipWith_cons_cons, List.zipWith_nil_left, simplexMeasure, co,
    List.cons.injEq, and_true]
  refine ⟨⟨?_, ?_, ?_, ?_⟩, ⟨?_, ?_, ?_, ?_⟩, ⟨?_, ?_, ?_, ?_⟩, ?_, ?_, ?_, ?_⟩ <;> ring

/-- simplices: the absolute measures of the children sum to the parent's -/
theorem C12_simplex_measures_add :
    (∀ a b : Rat, (lineT.map (fun w => |simplexMeasure .line (childPts .line [[a], [b]] w)|)).sum
      = |simplexMeasure .line [[a], [b]]|) ∧
    (∀ x0 y0 x1 y1 x2 y2 : Rat,
      (triT.map (fun w => |simplexMeasure .tri (childPts .tri [[x0, y0], [x1, y1], [x2, y2]] w)|)).sum
        = |simplexMeasure .tri [[x0, y0], [x1, y1], [x2, y2]]|) ∧
    (∀ (x0 y0 z0 x1 y1 z1 x2 y2 z2 x3 y3 z3 : Rat) (ch : Nat),
      ((tetCornerT ++ tetMidT ch).map (fun w => |simplexMeasure .tet
          (childPts .tet [[x0, y0, z0], [x1, y1, z1], [x2, y2, z2], [x3, y3, z3]] w)|)).sum
        = |simplexMeasure .tet [[x0, y0, z0], [x1, y1, z1], [x2, y2, z2], [x3, y3, z3]]|) := by
  refine ⟨fun a b => ?_, fun x0 y0 x1 y1 x2 y2 => ?_, fun x0 y0 z0 x1 y1 z1 x2 y2 z2 x3 y3 z3 ch => ?_⟩
  · rw [sum_abs_of_template _ _ [1, 1] _ 2 (by norm_num) (by simp)
      (by simpa using C12_line_template a b)]
    simp only [List.length_cons, List.length_nil]; push_cast; ring
  · rw [sum_abs_of_template _ _ _ _ 4 (by norm_num) (by simp)
      (C12_tri_template x0 y0 x1 y1 x2 y2)]
    simp only [List.length_cons, List.length_nil]; push_cast; ring
  · have h := C12_tet_template x0 y0 z0 x1 y1 z1 x2 y2 z2 x3 y3 z3
    simp only [List.map_cons, List.map_nil, tetSigns, List.cons.injEq, and_true] at h
    obtain ⟨hc, h0, h1, h2⟩ := h
    -- the inner children of every diagonal choice carry half of the measure
    obtain ⟨signs, hl, hs, hm⟩ : ∃ signs : List Rat, signs.length = 4 ∧ (∀ s ∈ signs, |s| = 1) ∧
        (tetMidT ch).map (fun w => simplexMeasure .tet (childPts .tet _ w))
          = signs.map (fun s => s * simplexMeasure .tet _ / 8) := by
      match ch with
      | 0 => exact ⟨[1, -1, 1, -1], rfl, by simp, h0⟩
      | 1 => exact ⟨[1, 1, 1, 1], rfl, by simp, h1⟩
      | _ + 2 => exact ⟨[-1, -1, -1, -1], rfl, by simp, h2⟩
    rw [List.map_append, List.sum_append,
      sum_abs_of_template _ _ [1, -1, -1, -1] _ 8 (by norm_num) (by simp) hc,
      sum_abs_of_template _ _ signs _ 8 (by norm_num) hs hm, hl]
    simp only [List.length_cons, List.length_nil]; push_cast; ring

/-- quadrilaterals: the bilinear map of child `i` is the parent's bilinear map restricted to the
    quarter `(ξ + r_i) / 2` of the reference square (`r_i` = reference coordinates of vertex `i`),
    coordinate by coordinate.  `hc` is not needed. -/
theorem C12_quad_restrict (x0 y0 x1 y1 x2 y2 x3 y3 ξ η : Rat) (c : Nat) (hc : c < 2) :
    quadT.map (fun w => multilin quadRefP (childPts .quad [[x0, y0], [x1, y1], [x2, y2], [x3, y3]] w) c [ξ, η])
      = quadRefP.map (fun r => multilin quadRefP [[x0, y0], [x1, y1], [x2, y2], [x3, y3]] c (subBox r [ξ, η])) := by
  refine restrict_of_ref refOk_quad quadT_ref C12_template_words_ok.2.2.1 _ rfl c _
    fun r hr => ?_
  obtain ⟨r0, r1, rfl⟩ := List.length_eq_two.mp (refOk_quad.dim r hr)
  exact multilinInterp_subBox_quad _ _ _ _ r0 r1 ξ η

/-- hexahedra: the trilinear map of child `i` is the parent's trilinear map restricted to the
    octant `(ξ + r_i) / 2` of the reference cube, coordinate by coordinate — also for non-planar
    faces.  `hc` is not needed. -/
theorem C12_hex_restrict
    (x0 y0 z0 x1 y1 z1 x2 y2 z2 x3 y3 z3 x4 y4 z4 x5 y5 z5 x6 y6 z6 x7 y7 z7 ξ η ζ : Rat)
    (c : Nat) (hc : c < 3) :
    hexT.map (fun w => multilin hexRefP (childPts .hex [[x0, y0, z0], [x1, y1, z1], [x2, y2, z2], [x3, y3, z3],
        [x4, y4, z4], [x5, y5, z5], [x6, y6, z6], [x7, y7, z7]] w) c [ξ, η, ζ])
      = hexRefP.map (fun r => multilin hexRefP [[x0, y0, z0], [x1, y1, z1], [x2, y2, z2], [x3, y3, z3],
        [x4, y4, z4], [x5, y5, z5], [x6, y6, z6], [x7, y7, z7]] c (subBox r [ξ, η, ζ])) := by
  refine restrict_of_ref refOk_hex hexT_ref C12_template_words_ok.2.2.2.1 _ rfl c _
    fun r hr => ?_
  obtain ⟨r0, r1, r2, rfl⟩ := List.length_eq_three.mp (refOk_hex.dim r hr)
  exact multilinInterp_subBox_hex _ _ _ _ _ _ _ _ r0 r1 r2 ξ η ζ

/-- the children of a strictly convex counterclockwise quadrilateral (all corner cross products
    positive) are strictly convex and counterclockwise: every corner cross product of a child is a
    positive combination of the parent's -/
theorem C12_quad_children_convex (x0 y0 x1 y1 x2 y2 x3 y3 : Rat)
    (hpos : ∀ t ∈ quadCorners [[x0, y0], [x1, y1], [x2, y2], [x3, y3]], 0 < t) :
    ∀ w ∈ quadT, ∀ t ∈ quadCorners (childPts .quad [[x0, y0], [x1, y1], [x2, y2], [x3, y3]] w), 0 < t := by
  obtain ⟨T0, T1, T2, T3, hT⟩ : ∃ T0 T1 T2 T3,
      quadCorners [[x0, y0], [x1, y1], [x2, y2], [x3, y3]] = [T0, T1, T2, T3] := ⟨_, _, _, _, rfl⟩
  rw [← List.forall_mem_map (P := fun l => ∀ t ∈ l, 0 < t), quad_corner_template _ _ _ _ _ _ _ _ T0 T1 T2 T3 hT]
  simp only [hT, List.forall_mem_cons, List.not_mem_nil, false_imp_iff, implies_true, and_true] at hpos ⊢
  obtain ⟨p0, p1, p2, p3⟩ := hpos
  and_intros <;> linarith

/-- quadrilaterals: the (signed, shoelace) areas of the children add up to the parent's -/
theorem C12_quad_area_add (x0 y0 x1 y1 x2 y2 x3 y3 : Rat) :
    (quadT.map (fun w => quadArea2 (childPts .quad [[x0, y0], [x1, y1], [x2, y2], [x3, y3]] w))).sum
      = quadArea2 [[x0, y0], [x1, y1], [x2, y2], [x3, y3]] := by
  simp only [quadT, childPts, wordPt, Kind.dim, Kind.facets, quadFacets, meanPts_pair, List.length_cons, List.length_nil, Nat.reduceAdd, List.zipWith_cons_cons, List.zipWith_nil_left, meanPts_four2, quadArea2, co,
    List.map_cons, List.map_nil, List.sum_cons, List.sum_nil, List.getD_cons_zero, List.getD_cons_succ]
  ring

/-- every vertex of every child lies in every closed half-space that contains the parent's
    vertices, i.e. in their convex hull — the parent itself for segments, triangles, tetrahedra and
    convex quadrilaterals (for hexahedra see `C12_hex_restrict`) -/
theorem C12_child_inside :
    (∀ a b α γ : Rat, (∀ P ∈ [[a], [b]], 0 ≤ aff [α] γ P) →
      ∀ w ∈ lineT, ∀ Q ∈ childPts .line [[a], [b]] w, 0 ≤ aff [α] γ Q) ∧
    (∀ x0 y0 x1 y1 x2 y2 α β γ : Rat, (∀ P ∈ [[x0, y0], [x1, y1], [x2, y2]], 0 ≤ aff [α, β] γ P) →
      ∀ w ∈ triT, ∀ Q ∈ childPts .tri [[x0, y0], [x1, y1], [x2, y2]] w, 0 ≤ aff [α, β] γ Q) ∧
    (∀ x0 y0 x1 y1 x2 y2 x3 y3 α β γ : Rat,
      (∀ P ∈ [[x0, y0], [x1, y1], [x2, y2], [x3, y3]], 0 ≤ aff [α, β] γ P) →
      ∀ w ∈ quadT, ∀ Q ∈ childPts .quad [[x0, y0], [x1, y1], [x2, y2], [x3, y3]] w, 0 ≤ aff [α, β] γ Q) ∧
    (∀ x0 y0 z0 x1 y1 z1 x2 y2 z2 x3 y3 z3 α β γ δ : Rat,
      (∀ P ∈ [[x0, y0, z0], [x1, y1, z1], [x2, y2, z2], [x3, y3, z3]], 0 ≤ aff [α, β, γ] δ P) →
      ∀ T ∈ [tetCornerT, tetMidT 0, tetMidT 1, tetMidT 2], ∀ w ∈ T,
        ∀ Q ∈ childPts .tet [[x0, y0, z0], [x1, y1, z1], [x2, y2, z2], [x3, y3, z3]] w,
          0 ≤ aff [α, β, γ] δ Q) ∧
    (∀ x0 y0 z0 x1 y1 z1 x2 y2 z2 x3 y3 z3 x4 y4 z4 x5 y5 z5 x6 y6 z6 x7 y7 z7 α β γ δ : Rat,
      (∀ P ∈ [[x0, y0, z0], [x1, y1, z1], [x2, y2, z2], [x3, y3, z3],
        [x4, y4, z4], [x5, y5, z5], [x6, y6, z6], [x7, y7, z7]], 0 ≤ aff [α, β, γ] δ P) →
      ∀ w ∈ hexT, ∀ Q ∈ childPts .hex [[x0, y0, z0], [x1, y1, z1], [x2, y2, z2], [x3, y3, z3],
        [x4, y4, z4], [x5, y5, z5], [x6, y6, z6], [x7, y7, z7]] w, 0 ≤ aff [α, β, γ] δ Q) := by
  obtain ⟨hl, ht, hq, hh, _⟩ := C12_template_words_ok
  refine ⟨fun a b α γ h => ?_, fun x0 y0 x1 y1 x2 y2 α β γ h => ?_,
    fun x0 y0 x1 y1 x2 y2 x3 y3 α β γ h => ?_,
    fun x0 y0 z0 x1 y1 z1 x2 y2 z2 x3 y3 z3 α β γ δ h T hT => ?_,
    fun x0 y0 z0 x1 y1 z1 x2 y2 z2 x3 y3 z3 x4 y4 z4 x5 y5 z5 x6 y6 z6 x7 y7 z7 α β γ δ h => ?_⟩
  · exact halfspace_children .line _ rfl _ _ h _ hl
  · exact halfspace_children .tri _ rfl _ _ h _ ht
  · exact halfspace_children .quad _ rfl _ _ h _ hq
  · exact halfspace_children .tet _ rfl _ _ h _
      ((by decide : ∀ T ∈ [tetCornerT, tetMidT 0, tetMidT 1, tetMidT 2], ∀ w ∈ T, ∀ x ∈ w, x.ok .tet = true) T hT)
  · exact halfspace_children .hex _ rfl _ _ h _ hh

/-- no hanging nodes: for two cells `k`, `k'` whose facets `s`, `s'` coincide along an admissible
    local correspondence `π` (every bijection of the facet's vertices for points, segments and
    triangles; the rotations and reflections for the quadrilateral faces of hexahedra) the refined
    facets (sorted global vertex tuples) lying on that facet are the same from both sides,
    whatever inner diagonals two tetrahedra choose.  The midpoint numbers are functions of the
    entity only (C11 sharing), the split of a facet of the facet only (decided on the templates). -/
theorem C12_conforming (kd : Kind) (m : MeshData) (k k' : Nat) (hk : k < m.cells.length)
    (hk' : k' < m.cells.length) (s s' : Nat) (hs : s < kd.facets.length) (hs' : s' < kd.facets.length)
    (π : List (Nat × Nat)) (hπ : π ∈ admissible kd s s') (T T' : Template) (hT : T ∈ tmpls kd)
    (hT' : T' ∈ tmpls kd)
    (hmatch : ∀ i ∈ kd.facets.getD s [],
      (m.cells.getD k []).getD i 0 = (m.cells.getD k' []).getD (applyPi π i) 0) :
    (refinedFacetsOn kd (envOf kd m) T k s).Perm (refinedFacetsOn kd (envOf kd m) T' k' s') :=
  conforming kd m k k' hk hk' s s' hs hs' π hπ T T' hT hT' hmatch

/-- except for hexahedra, two slots that name the same facet (same sorted vertex tuple, i.e. the
    same facet number by C11) match along an admissible correspondence: the hypothesis of
    `C12_conforming` is what "the two cells share the facet" means.  For hexahedra the
    correspondence must in addition be dihedral, which stays a hypothesis on the input mesh. -/
theorem C12_shared_facet_admissible (kd : Kind) (hkd : kd ≠ .hex) (c c' : List Nat) (s s' : Nat)
    (hs : s < kd.facets.length) (hs' : s' < kd.facets.length)
    (hshare : sortCol (slotCol c (kd.facets.getD s [])) = sortCol (slotCol c' (kd.facets.getD s' []))) :
    ∃ π ∈ admissible kd s s', ∀ a ∈ kd.facets.getD s [], c.getD a 0 = c'.getD (applyPi π a) 0 := by
  obtain ⟨σ, hσ, hF⟩ := perm_positions kd hkd _ _
    (by rw [slotCol, List.length_map]; exact (facets_ok kd s hs).2.1) (perm_of_sortCol_eq hshare)
  have hlen := ((facets_ok kd s hs).2.2 σ hσ).1
  refine ⟨_, List.mem_map.mpr ⟨σ, hσ, rfl⟩, fun a ha => ?_⟩
  have hq := List.idxOf_lt_length_of_mem ha
  have hq' : σ.getD ((kd.facets.getD s []).idxOf a) 0 < (kd.facets.getD s' []).length :=
    ((facets_ok kd s' hs').2.2 σ hσ).2 _ (getD_mem σ 0 (hlen ▸ hq))
  -- `c[a]` is entry `q` of the facet's vertex list, which is entry `σ q` of the other cell's
  have h1 : c.getD a 0 = (slotCol c (kd.facets.getD s [])).getD ((kd.facets.getD s []).idxOf a) 0 := by
    rw [slotCol, getD_map_of_lt _ _ _ 0 0 hq, getD_idxOf ha]
  rw [applyPi_admissible hs hσ ha, h1, hF, getD_map_of_lt _ _ _ 0 0 (hlen ▸ hq), slotCol,
    getD_map_of_lt _ _ _ 0 0 hq']

/-- except for hexahedra, any two cells of any mesh that name the same facet refine it identically -/
theorem C12_conforming_shared (kd : Kind) (hkd : kd ≠ .hex) (m : MeshData) (k k' : Nat)
    (hk : k < m.cells.length) (hk' : k' < m.cells.length) (s s' : Nat) (hs : s < kd.facets.length)
    (hs' : s' < kd.facets.length) (T T' : Template) (hT : T ∈ tmpls kd) (hT' : T' ∈ tmpls kd)
    (hshare : sortCol (slotCol (m.cells.getD k []) (kd.facets.getD s []))
      = sortCol (slotCol (m.cells.getD k' []) (kd.facets.getD s' []))) :
    (refinedFacetsOn kd (envOf kd m) T k s).Perm (refinedFacetsOn kd (envOf kd m) T' k' s') := by
  obtain ⟨π, hπ, hmatch⟩ := C12_shared_facet_admissible kd hkd _ _ s s' hs hs' hshare
  exact conforming kd m k k' hk hk' s s' hs hs' π hπ T T' hT hT' hmatch

/-- inside one parent: every refined facet that lies on none of the parent's facets is shared by
    exactly two of its children, the refined facets on the parent's facets are pairwise
    different, and every child facet is of one of the two kinds -/
theorem C12_interior_facets_paired (kd : Kind) : (tmpls kd).all (interiorPaired kd) = true := by
  cases kd <;> decide +kernel

/-- two new vertices of the same kind carry the same number iff they are midpoints of the same
    entity (same sorted vertex tuple) -/
theorem C12_midpoint_shared_iff (kd : Kind) (m : MeshData) (j k j' k' : Nat) (hk : k < m.cells.length)
    (hk' : k' < m.cells.length) :
    (j < kd.edges.length → j' < kd.edges.length →
      ((envOf kd m).num k (.e j) = (envOf kd m).num k' (.e j') ↔
        sortCol (slotCol (m.cells.getD k []) (kd.edges.getD j []))
          = sortCol (slotCol (m.cells.getD k' []) (kd.edges.getD j' [])))) ∧
    (kd ≠ .tet → j < kd.facets.length → j' < kd.facets.length →
      ((envOf kd m).num k (.f j) = (envOf kd m).num k' (.f j') ↔
        sortCol (slotCol (m.cells.getD k []) (kd.facets.getD j []))
          = sortCol (slotCol (m.cells.getD k' []) (kd.facets.getD j' [])))) := by
  have hE := envOf_ok kd m
  have hc := envOf_cells kd m
  constructor
  · intro hj hj'
    simp only [Env.num, hE.t2e, hc, Nat.add_left_cancel_iff]
    exact entityMapping_getD_eq_iff _ _ hj hk hj' hk'
  · intro hne hj hj'
    simp only [Env.num, hE.t2f hne, hc, Nat.add_left_cancel_iff]
    exact entityMapping_getD_eq_iff _ _ hj hk hj' hk'

/-- one pass: the result carries subdomains again (`MeshLine1` and `MeshTet1` map them themselves,
    the others through the generic code of `Mesh.refined`), each index array stays inside the new
    cell range and names exactly the new cells whose parent it named before -/
theorem C12_subdomain_children (kd : Kind) (m : MeshData) (s : List (List Nat)) (hs : m.sub = some s)
    (hok : TagsOk m.cells.length s) :
    ∃ s', (refinedOnce kd m).sub = some s' ∧ s'.length = s.length ∧
      TagsOk (refinedOnce kd m).cells.length s' ∧
      ∀ a, a < s.length → ∀ j, j < (refinedOnce kd m).cells.length →
        (j ∈ s'.getD a [] ↔ (parentsOf kd m).getD j 0 ∈ s.getD a []) := by
  rw [refinedOnce_cells_length]
  -- it suffices that the propagated array `g ixs` names the children of the cells in `ixs`
  suffices h : ∃ g : List Nat → List Nat, (refinedOnce kd m).sub = some (s.map g) ∧
      ∀ ixs, (∀ k ∈ ixs, k < m.cells.length) → ∀ j,
        j ∈ g ixs ↔ j < kd.nchild * m.cells.length ∧ (parentsOf kd m).getD j 0 ∈ ixs by
    obtain ⟨g, hg, h⟩ := h
    refine ⟨s.map g, hg, List.length_map _, fun ixs' hi j hj => ?_, fun a ha j hj => ?_⟩
    · obtain ⟨ixs, hixs, rfl⟩ := List.mem_map.mp hi
      exact ((h ixs (hok ixs hixs) j).mp hj).1
    · rw [getD_map_of_lt g s a [] [] ha, h _ (hok _ (getD_mem s [] ha))]; exact and_iff_right hj
  obtain ⟨T, hT, hnone, hpar⟩ | rfl | rfl : (∃ T : Template, kd.nchild = T.length ∧ subOf kd m = none ∧
      parentsOf kd m = (blockLayout m.cells.length T).map (·.1)) ∨ kd = .line ∨ kd = .tet := by
    cases kd
    exacts [.inr (.inl rfl), .inl ⟨triT, rfl, rfl, rfl⟩, .inl ⟨quadT, rfl, rfl, rfl⟩, .inr (.inr rfl),
      .inl ⟨hexT, rfl, rfl, rfl⟩]
  · -- the three classes whose subdomains the generic code of `Mesh.refined` propagates
    refine ⟨genericSub ((uniform kd m).cells.length / m.cells.length) m.cells.length,
      by simp only [refinedOnce, refinedOnceWith, hs, uniform, hnone], fun ixs hix j => ?_⟩
    rcases Nat.eq_zero_or_pos m.cells.length with h0 | hpos
    · simp [genericSub, sortCol, h0]
    · rw [show (uniform kd m).cells.length / m.cells.length = T.length by
        rw [uniform, length_newCells, hT]; exact Nat.mul_div_cancel _ hpos, hT, hpar]
      exact mem_genericSub _ T hix j
  · exact ⟨lineSub, by simp [refinedOnce, refinedOnceWith, hs, uniform, subOf], fun ixs hix j => mem_lineSub m hix j⟩
  · exact ⟨tetSub m.cells.length (tetMasksOf m).1 (tetMasksOf m).2.1 (tetMasksOf m).2.2,
      by simp [refinedOnce, refinedOnceWith, hs, uniform, subOf],
      fun ixs hix j => mem_tetSub (tetMaskLists_partition _ _ _) hix j⟩

/-- the ancestor is a cell of the original mesh -/
theorem C12_ancestor_exists (kd : Kind) (n : Nat) (m : MeshData) (j : Nat)
    (hj : j < (refined kd n m).cells.length) : (ancestors kd n m).getD j 0 < m.cells.length := by
  induction n generalizing m j with
  | zero => rwa [ancestors_zero_getD kd m j hj]
  | succ n ih =>
    rw [ancestors_succ_getD kd n m j hj]
    exact C12_parent_exists kd m _ (ih (refinedOnce kd m) j hj)

/-- `k` passes: a new cell is named iff its ancestor in the original mesh was -/
theorem C12_iterate_subdomains (kd : Kind) (n : Nat) (m : MeshData) (s : List (List Nat))
    (hs : m.sub = some s) (hok : TagsOk m.cells.length s) :
    ∃ s', (refined kd n m).sub = some s' ∧ s'.length = s.length ∧
      ∀ a, a < s.length → ∀ j, j < (refined kd n m).cells.length →
        (j ∈ s'.getD a [] ↔ (ancestors kd n m).getD j 0 ∈ s.getD a []) := by
  induction n generalizing m s with
  | zero =>
    refine ⟨s, hs, rfl, fun a _ j hj => ?_⟩
    rw [ancestors_zero_getD kd m j hj]
  | succ n ih =>
    obtain ⟨s1, hs1, hl1, hok1, h1⟩ := C12_subdomain_children kd m s hs hok
    obtain ⟨s', hs', hl', h'⟩ := ih (refinedOnce kd m) s1 hs1 hok1
    refine ⟨s', hs', hl'.trans hl1, fun a ha j hj => ?_⟩
    rw [h' a (hl1 ▸ ha) j hj, ancestors_succ_getD kd n m j hj]
    exact h1 a ha _ (C12_ancestor_exists kd n (refinedOnce kd m) j hj)

/-- F5 (pinned tree): `MeshLine1._uniform` left the subdomains to the generic code, which assumes
    the block layout `k, k + nt`; on three segments the subdomain `{1}` became `{1, 4}`, one child
    of segment 0 and one of segment 2; the repaired code returns the children `{2, 3}` -/
theorem C12_line_old_counterexample :
    let m : MeshData := { p := [[0], [1], [2], [4]], cells := [[0, 1], [1, 2], [2, 3]], sub := some [[1]] }
    (refinedOnceWith uniformLineOld m).sub = some [[1, 4]] ∧
    (parentsOf .line m).getD 1 0 = 0 ∧ (parentsOf .line m).getD 4 0 = 2 ∧
    (refinedOnce .line m).sub = some [[2, 3]] := by
  decide

/-- F5b (pinned tree): `MeshTet2._uniform` goes through `MeshTet1.from_mesh(self)`, which forgets
    the subdomains, so the generic code re-creates them as `k + i nt`, `i < 8`; for two tetrahedra
    that choose different inner diagonals the inner children are grouped by diagonal and the
    subdomain `{0}` also names the children 8, 10, 12, 14 of cell 1.  The repaired
    `MeshTet2._uniform` lets `MeshTet1` propagate them. -/
theorem C12_tet2_old_counterexample :
    let m : MeshData := { p := [[0, 0, 0], [1, 0, 0], [0, 1, 0], [0, 0, 1], [-1, 1, 2]],
                          cells := [[0, 1, 2, 3], [1, 2, 3, 4]], sub := some [[0]] }
    (refinedOnceWith (uniformSecondOld .tet) m).sub = some [[0, 2, 4, 6, 8, 10, 12, 14]] ∧
    (parentsOf .tet m) = [0, 1, 0, 1, 0, 1, 0, 1, 1, 0, 1, 0, 1, 0, 1, 0] ∧
    (refinedOnceWith (uniformSecond .tet) m).sub = some [[0, 2, 4, 6, 9, 11, 13, 15]] := by
  decide +kernel

/-- `np.sort(new_facets[:, ixs].flatten())`: the propagated array names exactly the entries of
    the two rows of `new_facets` at the named facets -/
theorem C12_boundary_sub_mem (nf : List Nat × List Nat) (ixs : List Nat) (j : Nat) :
    j ∈ boundarySub nf ixs ↔ ∃ f ∈ ixs, j = nf.1.getD f 0 ∨ j = nf.2.getD f 0 := by
  simp only [boundarySub, mem_sortCol, List.mem_append, List.mem_map]
  constructor
  · rintro (⟨f, hf, rfl⟩ | ⟨f, hf, rfl⟩)
    · exact ⟨f, hf, Or.inl rfl⟩
    · exact ⟨f, hf, Or.inr rfl⟩
  · rintro ⟨f, hf, (rfl | rfl)⟩
    · exact Or.inl ⟨f, hf, rfl⟩
    · exact Or.inr ⟨f, hf, rfl⟩

/-- triangles: for every old facet `f` (named by slot `s` of cell `k`) the two rows of `new_facets`
    name refined facets with the vertex sets `{a, sz + f}` and `{b, sz + f}`, where `{a, b}` are
    the vertices of `f` and `sz + f` is its midpoint (`C12_new_vertices`): the two halves of `f`.
    `TriRaw` (children 0–2 stored as in the template) holds without re-sorting and with
    `sort_t=True`, see below. -/
theorem C12_boundary_children_tri (m : MeshData) (hraw : TriRaw m) (s k : Nat) (hs : s < 3)
    (hk : k < m.cells.length) :
    ∃ a b,
      (facetTable .tri m).1.getD (((facetTable .tri m).2.getD s []).getD k 0) [] = sortCol [a, b] ∧
      (buildEntities (newCells .tri m) triFacets true).1.getD
        ((triNewFacets m.cells.length (facetTable .tri m).1.length (facetTable .tri m).2
          (buildEntities (newCells .tri m) triFacets true).2).1.getD
            (((facetTable .tri m).2.getD s []).getD k 0) 0) []
        = sortCol [a, m.p.length + ((facetTable .tri m).2.getD s []).getD k 0] ∧
      (buildEntities (newCells .tri m) triFacets true).1.getD
        ((triNewFacets m.cells.length (facetTable .tri m).1.length (facetTable .tri m).2
          (buildEntities (newCells .tri m) triFacets true).2).2.getD
            (((facetTable .tri m).2.getD s []).getD k 0) 0) []
        = sortCol [b, m.p.length + ((facetTable .tri m).2.getD s []).getD k 0] := by
  rw [triNewFacets_eq]
  exact new_facets_halves .tri triT triAsg m (by decide) rfl (fun _ _ => rfl) asgOk_tri hraw hs hk rfl rfl

/-- `sort_t=False`: the children are stored as the template says -/
theorem C12_tri_raw_unsorted (m : MeshData) (hsort : m.sortT = false) : TriRaw m := by
  intro blk hb k hk
  simp only [newCells, postInit, hsort, rawCells, layoutOf, Bool.false_eq_true, if_false]
  exact realize_block_getD _ _ _ _ _ (Nat.lt_succ_of_lt hb) hk

/-- `sort_t=True` (default of `MeshTri1`): in an ascending cell `(a, b, c)` the facets are
    numbered `t2f[0] < t2f[2] < t2f[1]` because the facet numbering is lexicographic (C11) -/
theorem C12_lex_facet_order (m : MeshData) (hasc : TriAscending m) (k : Nat) (hk : k < m.cells.length) :
    ((buildEntities m.cells triFacets true).2.getD 0 []).getD k 0
      < ((buildEntities m.cells triFacets true).2.getD 2 []).getD k 0 ∧
    ((buildEntities m.cells triFacets true).2.getD 2 []).getD k 0
      < ((buildEntities m.cells triFacets true).2.getD 1 []).getD k 0 := by
  obtain ⟨a, b, c, hc, hab, hbc, _⟩ := hasc k hk
  -- slot `j` of cell `k` names the stored facet `[x, y]`
  have slot : ∀ j x y, j < 3 → slotCol [a, b, c] (triFacets.getD j []) = [x, y] → x ≤ y →
      ∃ h : ((buildEntities m.cells triFacets true).2.getD j []).getD k 0 < (entitiesSorted m.cells triFacets).length,
        (entitiesSorted m.cells triFacets)[((buildEntities m.cells triFacets true).2.getD j []).getD k 0] = [x, y] := by
    intro j x y hj e hxy
    obtain ⟨l, e'⟩ := buildEntities_slot_sorted m.cells triFacets j k hj hk
    rw [hc, e, sortCol_of_pairwise (by simpa using hxy), getD_eq_getElem _ _ l] at e'
    exact ⟨l, e'⟩
  obtain ⟨l0, e0⟩ := slot 0 a b (by omega) rfl (by omega)
  obtain ⟨l1, e1⟩ := slot 1 b c (by omega) rfl (by omega)
  obtain ⟨l2, e2⟩ := slot 2 a c (by omega) rfl (by omega)
  have hp := C11.C11_entities_lex_sorted m.cells triFacets
  exact ⟨lt_of_getElem_lt hp l0 l2 (by rw [e0, e2]; exact pair_lt_pair (Or.inr ⟨rfl, hbc⟩)),
    lt_of_getElem_lt hp l2 l1 (by rw [e2, e1]; exact pair_lt_pair (Or.inl hab))⟩

/-- … hence the children `(corner, m, m')` are ascending already and the `__post_init__` sort of
    the refined mesh leaves them alone, as the slot arithmetic of `MeshTri1._uniform` silently
    assumes -/
theorem C12_tri_raw_sorted (m : MeshData) (hsort : m.sortT = true) (hasc : TriAscending m) : TriRaw m := by
  intro blk hb k hk
  obtain ⟨a, b, c, hc, hab, hbc, hcsz⟩ := hasc k hk
  obtain ⟨h02, h21⟩ := C12_lex_facet_order m hasc k hk
  have hb4 : blk < triT.length := Nat.lt_succ_of_lt hb
  simp only [newCells, postInit, hsort, rawCells, layoutOf, if_true]
  rw [getD_map_of_lt sortCol _ _ [] [] (by rw [length_realize, length_blockLayout]; exact mul_add_lt_mul hk hb4),
    realize_block_getD _ _ _ _ _ hb4 hk]
  apply sortCol_of_pairwise
  have hb3 : blk = 0 ∨ blk = 1 ∨ blk = 2 := by omega
  have ft : facetTable .tri m = buildEntities m.cells triFacets true := rfl
  simp only [List.getD_eq_getElem?_getD] at hc h02 h21
  rcases hb3 with rfl | rfl | rfl <;>
    simp [triT, Env.num, envOf, ft, hc] <;> omega

/-- the same for `MeshQuad1._uniform` (`sort_t=False`) -/
theorem C12_boundary_children_quad (m : MeshData) (hsort : m.sortT = false) (s k : Nat) (hs : s < 4)
    (hk : k < m.cells.length) :
    ∃ a b,
      (facetTable .quad m).1.getD (((facetTable .quad m).2.getD s []).getD k 0) [] = sortCol [a, b] ∧
      (buildEntities (newCells .quad m) quadFacets true).1.getD
        ((quadNewFacets m.cells.length (facetTable .quad m).1.length (facetTable .quad m).2
          (buildEntities (newCells .quad m) quadFacets true).2).1.getD
            (((facetTable .quad m).2.getD s []).getD k 0) 0) []
        = sortCol [a, m.p.length + ((facetTable .quad m).2.getD s []).getD k 0] ∧
      (buildEntities (newCells .quad m) quadFacets true).1.getD
        ((quadNewFacets m.cells.length (facetTable .quad m).1.length (facetTable .quad m).2
          (buildEntities (newCells .quad m) quadFacets true).2).2.getD
            (((facetTable .quad m).2.getD s []).getD k 0) 0) []
        = sortCol [b, m.p.length + ((facetTable .quad m).2.getD s []).getD k 0] := by
  rw [quadNewFacets_eq]
  refine new_facets_halves .quad quadT quadAsg m (Nat.le_refl 4) rfl (fun _ _ => rfl) asgOk_quad (fun blk hb q hq => ?_)
    hs hk rfl rfl
  simp only [newCells, postInit, hsort, rawCells, layoutOf, Bool.false_eq_true, if_false]
  exact realize_block_getD _ _ _ _ _ hb hq

/-- where the propagation of boundaries is unsupported (tetrahedra, hexahedra, every second-order
    class) the result carries `None`, never stale indices; segments keep the dictionary (facets
    are vertices and old vertices keep their numbers); triangles and quadrilaterals carry one iff
    the parent did -/
theorem C12_dropped_tags (n : Nat) (m : MeshData) :
    (refined .tet (n + 1) m).bnd = none ∧ (refined .hex (n + 1) m).bnd = none ∧
    (∀ kd, (refinedOnceWith (uniformSecond kd) m).bnd = none) ∧
    (refinedOnce .line m).bnd = m.bnd ∧
    ((refinedOnce .tri m).bnd.isSome = m.bnd.isSome) ∧ ((refinedOnce .quad m).bnd.isSome = m.bnd.isSome) := by
  have hstep : ∀ kd, (kd = .tet ∨ kd = .hex) → ∀ n m, (refined kd (n + 1) m).bnd = none := by
    intro kd hkd n
    induction n with
    | zero =>
      intro m
      simp only [refined, refinedOnce, refinedOnceWith_bnd, uniform]
      rcases hkd with rfl | rfl <;> rfl
    | succ n ih => intro m; exact ih (refinedOnce kd m)
  refine ⟨hstep .tet (Or.inl rfl) n m, hstep .hex (Or.inr rfl) n m, ?_, ?_, ?_, ?_⟩
  · intro kd; simp only [refinedOnceWith_bnd, uniformSecond]
  · simp only [refinedOnce, refinedOnceWith_bnd, uniform, bndOf]
  · simp only [refinedOnce, refinedOnceWith_bnd, uniform, bndOf]; cases m.bnd <;> rfl
  · simp only [refinedOnce, refinedOnceWith_bnd, uniform, bndOf]; cases m.bnd <;> rfl

-- `C12_subdomain_children` / `C12_iterate_subdomains` on two triangles: the arrays after one pass,
-- the counts and one ancestor after two
example :
    let m : MeshData := { p := [[0, 0], [1, 0], [0, 1], [1, 1]], cells := [[0, 1, 2], [1, 2, 3]],
                          sortT := true, sub := some [[1]], bnd := some [[0, 4]] }
    (refined .tri 1 m).sub = some [[1, 3, 5, 7]] ∧ (refined .tri 1 m).bnd = some [[0, 2, 7, 9]] ∧
    (refined .tri 1 m).cells.length = 8 ∧ (refined .tri 2 m).cells.length = 32 ∧
    (ancestors .tri 2 m).getD 9 0 = 1 := by
  decide +kernel

example : TagsOk 2 [[1]] := by
  unfold TagsOk
  decide

-- `TriAscending` for the two-triangle mesh; `hmatch` of `C12_conforming` for the common edge
-- (slot 1 of cell 0 = slot 0 of cell 1, same direction)
example : TriAscending { p := [[0, 0], [1, 0], [0, 1], [1, 1]], cells := [[0, 1, 2], [1, 2, 3]] } := by
  intro k hk
  have : k = 0 ∨ k = 1 := by simp at hk; omega
  rcases this with rfl | rfl
  · exact ⟨0, 1, 2, rfl, by omega, by omega, by simp⟩
  · exact ⟨1, 2, 3, rfl, by omega, by omega, by simp⟩

example : [(1, 0), (2, 1)] ∈ admissible .tri 1 0 ∧
    ∀ i ∈ triFacets.getD 1 [], ([0, 1, 2] : List Nat).getD i 0 = ([1, 2, 3] : List Nat).getD (applyPi [(1, 0), (2, 1)] i) 0 := by
  decide

end Skv.C12
