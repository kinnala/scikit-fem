import Mathlib.Algebra.MvPolynomial.PDeriv
import Mathlib.Algebra.MvPolynomial.Monad
import Mathlib.LinearAlgebra.Matrix.NonsingularInverse
import Mathlib.Tactic.Ring
/-
C09 (second part)  Mapped derivatives: the pull-back and Piola formulas used by
`ElementH1.gbasis`, `ElementHdiv.gbasis`, `ElementHcurl.gbasis` deliver the TRUE global
derivatives on every non-degenerate affine cell.

Setting: `R` a commutative ring (ℚ, ℝ), reference polynomials `φ̂ : MvPolynomial (Fin d) R`,
the inverse reference map `invF_i(x) = Σ_j Binv i j · (x_j − c_j)` (affine), `ψ = φ̂ ∘ invF`.
`A` is the Jacobian `DF`, `Binv` its inverse (`Binv * A = 1`, `A * Binv = 1`).
What the code computes: `grad[j] = Σ_i invDF[i, j] · dphi[i]` (einsum 'ijkl,il->jkl'),
`value = DF φ̂ / det` and `div = div̂ φ̂ / det` for H(div), `value = invDFᵀ φ̂`, `curl = curl̂ φ̂ / det`
(2-D) for H(curl).
-/
namespace Skv.C09b
open MvPolynomial

variable {R : Type} [CommRing R] {d : Nat}

/-- the affine substitution `X_i ↦ Σ_j Binv i j • (X_j − c_j)` -/
noncomputable def invMap (Binv : Matrix (Fin d) (Fin d) R) (c : Fin d → R) :
    Fin d → MvPolynomial (Fin d) R :=
  fun i => ∑ j, C (Binv i j) * (X j - C (c j))

/-- pull-back of a reference polynomial to the cell: `ψ = φ̂ ∘ invF` -/
noncomputable def pullback (Binv : Matrix (Fin d) (Fin d) R) (c : Fin d → R)
    (p : MvPolynomial (Fin d) R) : MvPolynomial (Fin d) R :=
  bind₁ (invMap Binv c) p

/-- chain rule for polynomial substitution -/
theorem C09_chain_rule {e : Nat} (g : Fin d → MvPolynomial (Fin e) R) (p : MvPolynomial (Fin d) R)
    (j : Fin e) :
    pderiv j (bind₁ g p) = ∑ i, bind₁ g (pderiv i p) * pderiv j (g i) := by
  induction p using MvPolynomial.induction_on with
  | C a => simp only [bind₁_C_right, pderiv_C, map_zero, zero_mul, Finset.sum_const_zero]
  | add p q hp hq => simp only [map_add, hp, hq, add_mul, Finset.sum_add_distrib]
  | mul_X p n hp =>
    -- of the derivatives of the variable `X n` only `∂ₙ` survives
    have hX : ∑ i, bind₁ g (pderiv i (X n)) * pderiv j (g i) = pderiv j (g n) := by
      rw [Fintype.sum_eq_single n (fun i hi => by rw [pderiv_X_of_ne hi.symm, map_zero, zero_mul]),
        pderiv_X_self, map_one, one_mul]
    rw [map_mul, bind₁_X_right, pderiv_mul, hp, Finset.sum_mul, ← hX, Finset.mul_sum,
      ← Finset.sum_add_distrib]
    refine Finset.sum_congr rfl fun i _ => ?_
    rw [pderiv_mul, map_add, map_mul, map_mul, bind₁_X_right]
    ring

/-- derivative of the affine inverse map: `∂_j invF_i = Binv i j` -/
theorem C09_pderiv_invMap (Binv : Matrix (Fin d) (Fin d) R) (c : Fin d → R) (i j : Fin d) :
    pderiv j (invMap Binv c i) = C (Binv i j) := by
  classical
  simp only [invMap, map_sum, pderiv_C_mul, map_sub, pderiv_C, sub_zero, pderiv_X]
  rw [Fintype.sum_eq_single j]
  · simp
  · intro b hb
    simp [hb]

/-- H1 pull-back: component `j` of the global gradient of `ψ = φ̂ ∘ invF` is
    `Σ_i invDF[i, j] · (∂_i φ̂) ∘ invF`, the einsum of `ElementH1.gbasis` -/
theorem C09_h1_pullback (Binv : Matrix (Fin d) (Fin d) R) (c : Fin d → R)
    (p : MvPolynomial (Fin d) R) (j : Fin d) :
    pderiv j (pullback Binv c p) = ∑ i, C (Binv i j) * pullback Binv c (pderiv i p) := by
  simp only [pullback]
  rw [C09_chain_rule]
  apply Finset.sum_congr rfl
  intro i _
  rw [C09_pderiv_invMap, mul_comm]

/-- second derivatives: the Hessian transforms with `invDFᵀ · Ĥ · invDF` -/
theorem C09_h1_pullback_hess (Binv : Matrix (Fin d) (Fin d) R) (c : Fin d → R)
    (p : MvPolynomial (Fin d) R) (j k : Fin d) :
    pderiv k (pderiv j (pullback Binv c p))
      = ∑ i, ∑ l, C (Binv i j * Binv l k) * pullback Binv c (pderiv l (pderiv i p)) := by
  rw [C09_h1_pullback, map_sum]
  apply Finset.sum_congr rfl
  intro i _
  rw [pderiv_C_mul, C09_h1_pullback, Finset.mul_sum]
  apply Finset.sum_congr rfl
  intro l _
  rw [C_mul, mul_assoc]

/-- contravariant Piola map (H(div)): for `u_j = δ · Σ_k A j k · φ̂_k ∘ invF` (δ = 1/det, any
    constant), `div u = δ · (div̂ φ̂) ∘ invF` -/
theorem C09_piola_div (A Binv : Matrix (Fin d) (Fin d) R) (hinv : Binv * A = 1) (c : Fin d → R)
    (δ : R) (φ : Fin d → MvPolynomial (Fin d) R) :
    ∑ j, pderiv j (C δ * ∑ k, C (A j k) * pullback Binv c (φ k))
      = C δ * pullback Binv c (∑ k, pderiv k (φ k)) := by
  -- `Σ_j A j k ∂_j (φ̂ ∘ invF) = (∂_k φ̂) ∘ invF`: the `Binv` of the pull-back formula meets `A`
  have hk : ∀ k, ∑ j, C (A j k) * pderiv j (pullback Binv c (φ k))
      = pullback Binv c (pderiv k (φ k)) := fun k => by
    simp only [C09_h1_pullback, Finset.mul_sum, ← mul_assoc, ← C_mul]
    rw [Finset.sum_comm]
    simp only [← Finset.sum_mul, ← map_sum, mul_comm (A _ _), ← Matrix.mul_apply, hinv,
      Matrix.one_apply]
    rw [Fintype.sum_eq_single k fun i hi => by rw [if_neg hi, map_zero, zero_mul], if_pos rfl,
      map_one, one_mul]
  simp only [pderiv_C_mul, map_sum, ← Finset.mul_sum]
  rw [Finset.sum_comm]
  simp only [hk]
  simp only [pullback, map_sum]

/-- covariant Piola map in 2-D (H(curl)): for `u_j = Σ_i Binv i j · φ̂_i ∘ invF` the scalar curl is
    `det(Binv) · (curl̂ φ̂) ∘ invF` (= curl̂ φ̂ / det DF) -/
theorem C09_piola_curl2 (Binv : Matrix (Fin 2) (Fin 2) R) (c : Fin 2 → R)
    (φ : Fin 2 → MvPolynomial (Fin 2) R) :
    pderiv 0 (∑ i, C (Binv i 1) * pullback Binv c (φ i))
        - pderiv 1 (∑ i, C (Binv i 0) * pullback Binv c (φ i))
      = C (Binv.det) * pullback Binv c (pderiv 0 (φ 1) - pderiv 1 (φ 0)) := by
  simp only [map_add, pderiv_C_mul, C09_h1_pullback, Fin.sum_univ_two, Matrix.det_fin_two, C_sub, C_mul]
  simp only [pullback, map_sub]
  ring

/-- the pull-back is composition with the inverse map: `ψ` at `x` is `φ̂` at `invF x` -/
theorem C09_pullback_eval (Binv : Matrix (Fin d) (Fin d) R) (c : Fin d → R)
    (p : MvPolynomial (Fin d) R) (x : Fin d → R) :
    eval x (pullback Binv c p) = eval (fun i => ∑ j, Binv i j * (x j - c j)) p := by
  rw [pullback, ← aeval_eq_eval, aeval_bind₁, aeval_eq_eval]
  simp only [invMap, aeval_eq_eval, map_sum, map_mul, map_sub, eval_C, eval_X]

end Skv.C09b
