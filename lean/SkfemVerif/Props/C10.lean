import SkfemVerif.Model.Affine
import SkfemVerif.Lemmas.Affine
import Mathlib.LinearAlgebra.Matrix.Determinant.Basic
import Mathlib.Algebra.Order.Field.Basic
import Mathlib.Tactic.Ring
import Mathlib.Tactic.IntervalCases
import Mathlib.Tactic.LinearCombination
/-
C10  Reference maps, Jacobians, facet maps and normals are mutually consistent.

Model: Model/Affine.lean over the closed-form blocks of `Gen/AffineFormulas.lean`, which
`harness/skv/gens/affine.py` re-extracts from the live source on every run (restricted AST translator:
`_init_Ab`, `_init_invA`, `_init_boundary_mapping`, `normals`, `detDF`, `invDF`, `detDG`, the `lbasis` of the
mapping elements, the tables of `refdom.py`, the output sizing of `Fmap/_J/bndmap/bndJ`, the key of
`hash_args`).  Tie for the hand-written parts (matrix-vector contractions, nodal expansion): correspondence
ops `map.aff`, `map.affbnd`, `map.iso`, `map.isobnd`, `map.outshape`, `map.hashkey`.

`K` is any field (linearly ordered where a sign is asserted); `d ∈ {1, 2, 3}` (the code raises otherwise).
`RefCell`, `refCells` (the six reference cells of `refdom.py`) and `refOutward` of the statements about
normals are defined in `Lemmas/Affine.lean` (namespace `Skv.Map`).
-/
namespace Skv.C10
open Skv.Map Skv.Gen.Map

section Field
variable {K : Type} [Field K]

/-- the transcribed determinants are the determinant -/
theorem C10_affine_det (A : Nat → Nat → K) :
    affDet 1 A = Matrix.det (Matrix.of fun (i j : Fin 1) => A i.val j.val)
    ∧ affDet 2 A = Matrix.det (Matrix.of fun (i j : Fin 2) => A i.val j.val)
    ∧ affDet 3 A = Matrix.det (Matrix.of fun (i j : Fin 3) => A i.val j.val) := by
  refine ⟨?_, ?_, ?_⟩
  · simp [affDet, affDet1]
  · rw [Matrix.det_fin_two]; simp [affDet]; unfold affDet2; ring
  · rw [Matrix.det_fin_three]; simp [affDet, affDet3]; ring

/-- the transcribed inverse is a two-sided inverse whenever the determinant does not vanish -/
theorem C10_affine_inv (d : Nat) (hd : d = 1 ∨ d = 2 ∨ d = 3) (A : Nat → Nat → K)
    (h : affDet d A ≠ 0) (i j : Nat) (hi : i < d) (hj : j < d) :
    mulMat d (affInv d A) A i j = (if i = j then 1 else 0)
    ∧ mulMat d A (affInv d A) i j = (if i = j then 1 else 0) := by
  -- a left inverse of a square matrix is a right inverse
  have hr := toM_eq_one.2 fun i hi j hj => affInv_mul d hd A h i j hi hj
  rw [toM_mulMat, mul_eq_one_comm, ← toM_mulMat, toM_eq_one] at hr
  exact ⟨affInv_mul d hd A h i j hi hj, hr i hi j hj⟩

/-- the branch of `_init_Ab` for a cell subset (`tind` given to the constructor) computes the same
    `A`, `b` as the branch for all cells -/
theorem C10_affine_Ab_subset_branch (v : Nat → Nat → K) :
    affASub v = affA v ∧ affbSub v = affb v := ⟨rfl, rfl⟩

/-- `F` sends the vertices of the reference simplex (table `refdom.p`) to the vertices of the cell -/
theorem C10_affine_F_vertices (v : Nat → Nat → K) :
    (∀ k ≤ 1, ∀ i < 1, cellF 1 v (refVertex refLineP k) i = v k i)
    ∧ (∀ k ≤ 2, ∀ i < 2, cellF 2 v (refVertex refTriP k) i = v k i)
    ∧ (∀ k ≤ 3, ∀ i < 3, cellF 3 v (refVertex refTetP k) i = v k i) := cellF_vertices v

/-- `F ∘ invF = id` -/
theorem C10_affine_F_invF (d : Nat) (hd : d = 1 ∨ d = 2 ∨ d = 3) (A : Nat → Nat → K) (b x : Nat → K)
    (h : affDet d A ≠ 0) (i : Nat) (hi : i < d) :
    affF d A b (affInvF d (affInv d A) b x) i = x i := by
  unfold affF affInvF
  rw [← mulVec_mulMat, mulVec_one hi fun j hj => (C10_affine_inv d hd A h i j hi hj).2, sub_add_cancel]

/-- `invF ∘ F = id` -/
theorem C10_affine_invF_F (d : Nat) (hd : d = 1 ∨ d = 2 ∨ d = 3) (A : Nat → Nat → K) (b X : Nat → K)
    (h : affDet d A ≠ 0) (i : Nat) (hi : i < d) :
    affInvF d (affInv d A) b (affF d A b X) i = X i := by
  unfold affInvF affF
  simp only [add_sub_cancel_right]
  rw [← mulVec_mulMat, mulVec_one hi fun j hj => affInv_mul d hd A h i j hi hj]

/-- `DF = A` is the derivative: the increment of `F` is exactly `A H`.  `hd` is not needed. -/
theorem C10_affine_DF (d : Nat) (hd : d = 1 ∨ d = 2 ∨ d = 3) (A : Nat → Nat → K) (b X H : Nat → K)
    (i : Nat) : affF d A b (fun j => X j + H j) i - affF d A b X i = mulVec d A H i := by
  simp only [affF, mulVec_add, add_sub_add_right_eq_sub, add_sub_cancel_left]

/-- `detDF` is the determinant of the matrix of `J` values -/
theorem C10_iso_det (J : Nat → Nat → K) :
    isoDet 1 J = Matrix.det (Matrix.of fun (i j : Fin 1) => J i.val j.val)
    ∧ isoDet 2 J = Matrix.det (Matrix.of fun (i j : Fin 2) => J i.val j.val)
    ∧ isoDet 3 J = Matrix.det (Matrix.of fun (i j : Fin 3) => J i.val j.val) := by
  simp only [isoDet_eq_affDet]
  exact C10_affine_det J

/-- `invDF` (adjugate formulas divided by `detDF`) is a two-sided inverse of `DF` -/
theorem C10_iso_inv (d : Nat) (hd : d = 1 ∨ d = 2 ∨ d = 3) (J : Nat → Nat → K)
    (h : isoDet d J ≠ 0) (i j : Nat) (hi : i < d) (hj : j < d) :
    mulMat d (isoInv d J) J i j = (if i = j then 1 else 0)
    ∧ mulMat d J (isoInv d J) i j = (if i = j then 1 else 0) := by
  rw [isoInv_eq_affInv]
  exact C10_affine_inv d hd J (isoDet_eq_affDet d J ▸ h) i j hi hj

/-- with the P1 shape functions (`ElementLineP1/TriP1/TetP1.lbasis`) the isoparametric map is the affine
    map `b + A X` of `_init_Ab` and its Jacobian is `A`: on straight simplices both classes deliver the
    same `F`, `DF` -/
theorem C10_affine_eq_iso (v : Nat → Nat → K) (X : Nat → K) (i : Nat) :
    (isoF lineP1N lineP1Phi v X i = cellF 1 v X i
      ∧ isoJ lineP1N lineP1DPhi v X i 0 = affA v i 0)
    ∧ (isoF triP1N triP1Phi v X i = cellF 2 v X i
      ∧ ∀ j < 2, isoJ triP1N triP1DPhi v X i j = affA v i j)
    ∧ (isoF tetP1N tetP1Phi v X i = cellF 3 v X i
      ∧ ∀ j < 3, isoJ tetP1N tetP1DPhi v X i j = affA v i j) := by
  -- here and below: the sums are unrolled before the shape functions are unfolded at numerals
  -- (the reason is at the head of `Lemmas/Affine.lean`)
  simp only [isoF, isoJ, lineP1N, triP1N, tetP1N, cellF, affF, mulVec, affA, affb, sumN_succ, sumN_zero,
    zero_add]
  simp only [lineP1Phi, triP1Phi, tetP1Phi, lineP1DPhi]
  refine ⟨⟨by ring, by ring⟩, ⟨by ring, fun j hj => ?_⟩, ⟨by ring, fun j hj => ?_⟩⟩ <;>
    interval_cases j <;> simp only [triP1DPhi, tetP1DPhi] <;> ring

/-- same formulas in both classes: `detDF`, `invDF` of the isoparametric mapping are the affine ones.
    `hd` and the bounds on `i`, `j` are not needed. -/
theorem C10_iso_formulas_eq_affine (d : Nat) (hd : d = 1 ∨ d = 2 ∨ d = 3) (J : Nat → Nat → K) :
    isoDet d J = affDet d J ∧ ∀ i < d, ∀ j < d, isoInv d J i j = affInv d J i j :=
  ⟨isoDet_eq_affDet d J, fun i _ j _ => by rw [isoInv_eq_affInv]⟩

/-- the bilinear map sends the vertices of the reference square (`RefQuad.p`) to the cell vertices -/
theorem C10_iso_F_vertices_quad (v : Nat → Nat → K) (k : Nat) (hk : k < 4) (i : Nat) :
    isoF quad1N quad1Phi v (refVertex refQuadP k) i = v k i := by
  interval_cases k <;>
    simp only [isoF_quad, refQuadP, refVertex_eq_cast, List.getD_cons_succ, List.getD_cons_zero,
      Int.cast_one, Int.cast_zero, zero_mul, one_mul, mul_one, add_zero] <;>
    ring

/-- the trilinear map sends the vertices of the reference cube (`RefHex.p`) to the cell vertices -/
theorem C10_iso_F_vertices_hex (v : Nat → Nat → K) (k : Nat) (hk : k < 8) (i : Nat) :
    isoF hex1N hex1Phi v (refVertex refHexP k) i = v k i := by
  interval_cases k <;>
    simp only [isoF_hex, refHexP, refVertex_eq_cast, List.getD_cons_succ, List.getD_cons_zero,
      Int.cast_one, Int.cast_zero, sub_zero, sub_self, mul_one, mul_zero, add_zero, zero_add]

/-- Jacobian = derivative (bilinear quadrilateral): the Taylor remainder of `F` (built from `phi`) with
    `J` (built from the delivered `dphi`) is exactly `H₀H₁ (p₀ − p₁ + p₂ − p₃)`, quadratic in `H` -/
theorem C10_iso_jacobian_quad (v : Nat → Nat → K) (X H : Nat → K) (i : Nat) :
    isoF quad1N quad1Phi v (fun j => X j + H j) i - isoF quad1N quad1Phi v X i
      - mulVec 2 (isoJ quad1N quad1DPhi v X) H i
    = H 0 * H 1 * (v 0 i - v 1 i + v 2 i - v 3 i) := by
  simp only [isoF_quad, isoJ, mulVec]
  simp only [quad1N, sumN_succ, sumN_zero, zero_add]
  simp only [quad1DPhi]; ring

/-- Trilinear hexahedron: the Taylor remainder is `H₀H₁ r₀₁ + H₀H₂ r₀₂ + H₁H₂ r₁₂` with `r` chosen after
    `X` and `H` (the proof takes the mixed second differences).  As stated this binds only increments along
    one coordinate axis, where the remainder vanishes: `F` is affine in each coordinate with slope the
    column of `J`. -/
theorem C10_iso_jacobian_hex (v : Nat → Nat → K) (X H : Nat → K) (i : Nat) :
    ∃ r01 r02 r12 : K,
      isoF hex1N hex1Phi v (fun j => X j + H j) i - isoF hex1N hex1Phi v X i
        - mulVec 3 (isoJ hex1N hex1DPhi v X) H i
      = H 0 * H 1 * r01 + H 0 * H 2 * r02 + H 1 * H 2 * r12 := by
  refine ⟨X 2 * (v 0 i - v 2 i - v 3 i + v 6 i) + (1 - X 2) * (v 1 i - v 4 i - v 5 i + v 7 i)
            + H 2 * (v 0 i - v 1 i - v 2 i - v 3 i + v 4 i + v 5 i + v 6 i - v 7 i),
          X 1 * (v 0 i - v 1 i - v 3 i + v 5 i) + (1 - X 1) * (v 2 i - v 4 i - v 6 i + v 7 i),
          X 0 * (v 0 i - v 1 i - v 2 i + v 4 i) + (1 - X 0) * (v 3 i - v 5 i - v 6 i + v 7 i), ?_⟩
  simp only [isoF_hex, isoJ, mulVec]
  simp only [hex1N, sumN_succ, sumN_zero, zero_add]
  simp only [hex1DPhi]; ring

/-- Quadratic triangle and (below) its quadratic edges, `MeshTri2`: the remainder is a quadratic form in
    `H` whose coefficients do not depend on the point -/
theorem C10_iso_jacobian_triP2 (v : Nat → Nat → K) (i : Nat) :
    ∃ c00 c01 c11 : K, ∀ X H : Nat → K,
      isoF triP2N triP2Phi v (fun j => X j + H j) i - isoF triP2N triP2Phi v X i
        - mulVec 2 (isoJ triP2N triP2DPhi v X) H i
      = c00 * (H 0 * H 0) + c01 * (H 0 * H 1) + c11 * (H 1 * H 1) := by
  refine ⟨2 * v 0 i + 2 * v 1 i - 4 * v 3 i, 4 * v 0 i - 4 * v 3 i + 4 * v 4 i - 4 * v 5 i,
          2 * v 0 i + 2 * v 2 i - 4 * v 5 i, ?_⟩
  intro X H
  simp only [isoF_triP2, isoJ, mulVec]
  simp only [triP2N, sumN_succ, sumN_zero, zero_add]
  simp only [triP2DPhi, nat_eq_cast, Nat.cast_ofNat]; ring

theorem C10_iso_jacobian_lineP2 (w : Nat → Nat → K) (i : Nat) :
    ∃ c : K, ∀ s h : Nat → K,
      isoF lineP2N lineP2Phi w (fun j => s j + h j) i - isoF lineP2N lineP2Phi w s i
        - mulVec 1 (isoJ lineP2N lineP2DPhi w s) h i
      = c * (h 0 * h 0) := by
  refine ⟨2 * w 0 i + 2 * w 1 i - 4 * w 2 i, ?_⟩
  intro s h
  simp only [isoF_lineP2, isoJ, mulVec]
  simp only [lineP2N, sumN_succ, sumN_zero, zero_add]
  simp only [lineP2DPhi, nat_eq_cast, Nat.cast_ofNat]; ring

/-- the same for the quadratic tetrahedron, `MeshTet2` (its faces are `triP2`) -/
theorem C10_iso_jacobian_tetP2 (v : Nat → Nat → K) (i : Nat) :
    ∃ c00 c11 c22 c01 c02 c12 : K, ∀ X H : Nat → K,
      isoF tetP2N tetP2Phi v (fun j => X j + H j) i - isoF tetP2N tetP2Phi v X i
        - mulVec 3 (isoJ tetP2N tetP2DPhi v X) H i
      = c00 * (H 0 * H 0) + c11 * (H 1 * H 1) + c22 * (H 2 * H 2)
        + c01 * (H 0 * H 1) + c02 * (H 0 * H 2) + c12 * (H 1 * H 2) := by
  refine ⟨2 * v 0 i + 2 * v 1 i - 4 * v 4 i, 2 * v 0 i + 2 * v 2 i - 4 * v 6 i,
          2 * v 0 i + 2 * v 3 i - 4 * v 7 i, 4 * v 0 i - 4 * v 4 i + 4 * v 5 i - 4 * v 6 i,
          4 * v 0 i - 4 * v 4 i - 4 * v 7 i + 4 * v 8 i, 4 * v 0 i - 4 * v 6 i - 4 * v 7 i + 4 * v 9 i, ?_⟩
  intro X H
  simp only [isoF, isoJ, mulVec, tetP2N, sumN_succ, sumN_zero, zero_add]
  simp only [tetP2Phi, tetP2DPhi, nat_eq_cast, Nat.cast_ofNat]; ring

/-- Prism, `MeshWedge1`: exact remainder, and the map sends the reference vertices (`RefWedge.p`) to the
    cell vertices -/
theorem C10_iso_jacobian_wedge (v : Nat → Nat → K) (X H : Nat → K) (i : Nat) :
    (isoF wedge1N wedge1Phi v (fun j => X j + H j) i - isoF wedge1N wedge1Phi v X i
        - mulVec 3 (isoJ wedge1N wedge1DPhi v X) H i
      = H 0 * H 2 * (v 0 i - v 1 i - v 3 i + v 4 i) + H 1 * H 2 * (v 0 i - v 2 i - v 3 i + v 5 i))
    ∧ ∀ k < 6, isoF wedge1N wedge1Phi v (refVertex refWedgeP k) i = v k i := by
  constructor
  · simp only [isoF, isoJ, mulVec, wedge1N, sumN_succ, sumN_zero, zero_add]
    simp only [wedge1Phi, wedge1DPhi]; ring
  · intro k hk
    simp only [isoF, wedge1N, sumN_succ, sumN_zero, zero_add]
    simp only [wedge1Phi]
    interval_cases k <;>
      simp only [refWedgeP, refVertex_eq_cast, List.getD_cons_succ, List.getD_cons_zero,
        Int.cast_one, Int.cast_zero, sub_zero, sub_self, mul_one, mul_zero, add_zero, zero_add]

/-- Facet map (triangles): if the facet's vertices are the vertices `loc 0, loc 1` of the cell (ANY two
    local numbers: either neighbour, either orientation), `G(s) = c + B s` is the image under the cell map
    of the point `γ(s)` of the reference facet -/
theorem C10_facet_param_tri (v : Nat → Nat → K) (loc : Nat → Nat) (h0 : loc 0 ≤ 2) (h1 : loc 1 ≤ 2)
    (s : Nat → K) (i : Nat) (hi : i < 2) :
    facetG 2 (fun k => v (loc k)) s i = cellF 2 v (gammaSimplex refTriP 2 loc s) i := by
  obtain ⟨_, hv, _⟩ := C10_affine_F_vertices v
  have e0 := hv (loc 0) h0 i hi
  have e1 := hv (loc 1) h1 i hi
  simp only [cellF, affF, mulVec, sumN_succ, sumN_zero, zero_add] at e0 e1
  simp only [facetG, affG, affB, affc, cellF, affF, mulVec, gammaSimplex, Nat.add_one_sub_one, sumN_succ,
    sumN_zero, zero_add]
  linear_combination (s 0 - 1) * e0 - s 0 * e1

/-- tetrahedra: any three local numbers `loc 0, loc 1, loc 2` -/
theorem C10_facet_param_tet (v : Nat → Nat → K) (loc : Nat → Nat) (h0 : loc 0 ≤ 3) (h1 : loc 1 ≤ 3)
    (h2 : loc 2 ≤ 3) (s : Nat → K) (i : Nat) (hi : i < 3) :
    facetG 3 (fun k => v (loc k)) s i = cellF 3 v (gammaSimplex refTetP 3 loc s) i := by
  obtain ⟨_, _, hv⟩ := C10_affine_F_vertices v
  have e0 := hv (loc 0) h0 i hi
  have e1 := hv (loc 1) h1 i hi
  have e2 := hv (loc 2) h2 i hi
  simp only [cellF, affF, mulVec, sumN_succ, sumN_zero, zero_add] at e0 e1 e2
  simp only [facetG, affG, affB, affc, cellF, affF, mulVec, gammaSimplex, Nat.add_one_sub_one, sumN_succ,
    sumN_zero, zero_add]
  linear_combination (s 0 + s 1 - 1) * e0 - s 0 * e1 - s 1 * e2

/-- Quadrilaterals: if the facet's vertices are the end points of a local edge of the cell (table
    `RefQuad.facets`, either orientation), `G(s)` (`bndmap` with `ElementLineP1`) is the image under the
    bilinear cell map of the reference edge point -/
theorem C10_facet_param_quad (v : Nat → Nat → K) (loc : Nat → Nat)
    (hloc : ∃ f, f < 4 ∧ ([loc 0, loc 1] = refQuadFacets.getD f []
                          ∨ [loc 1, loc 0] = refQuadFacets.getD f []))
    (s : Nat → K) (i : Nat) :
    isoF lineP1N lineP1Phi (fun k => v (loc k)) s i
      = isoF quad1N quad1Phi v (gammaIso refQuadP lineP1N lineP1Phi loc s) i := by
  obtain ⟨f, hf, h⟩ := hloc
  rw [gammaIso_eq_isoF]
  interval_cases f <;>
    simp only [refQuadFacets, List.getD_cons_succ, List.getD_cons_zero, List.cons.injEq, and_true] at h <;>
    rcases h with ⟨a, b⟩ | ⟨a, b⟩ <;>
    simp only [isoF_quad, isoF_lineP1, a, b, refQuadP, refVertex_eq_cast, List.getD_cons_succ,
      List.getD_cons_zero, Int.cast_one, Int.cast_zero, one_mul, zero_mul, add_zero, zero_add] <;>
    ring

/-- Curved quadratic triangles, `MeshTri2`: the facet's nodes are its two vertices (local edge `f` in
    either orientation) and the mid-edge node `3 + f`; `G(s)` (`bndmap` with `ElementLineP2`) is the image
    under the QUADRATIC cell map of the point of the straight reference edge, so both neighbours
    parametrise the curved edge identically -/
theorem C10_facet_param_triP2 (v : Nat → Nat → K) (loc : Nat → Nat) (f : Nat) (hf : f < 3)
    (hloc : [loc 0, loc 1] = refTriFacets.getD f [] ∨ [loc 1, loc 0] = refTriFacets.getD f [])
    (s : Nat → K) (i : Nat) :
    isoF lineP2N lineP2Phi (fun k => if k = 2 then v (3 + f) else v (loc k)) s i
      = isoF triP2N triP2Phi v (gammaIso refTriP lineP1N lineP1Phi loc s) i := by
  rw [gammaIso_eq_isoF]
  interval_cases f <;>
    simp only [refTriFacets, List.getD_cons_succ, List.getD_cons_zero, List.cons.injEq, and_true] at hloc <;>
    rcases hloc with ⟨a, b⟩ | ⟨a, b⟩ <;>
    simp only [isoF_lineP2, isoF_triP2, isoF_lineP1, a, b, refTriP, refVertex_eq_cast, List.getD_cons_succ,
      List.getD_cons_zero, Int.cast_one, Int.cast_zero, one_mul, zero_mul, mul_zero, add_zero, zero_add,
      sub_zero, ↓reduceIte, OfNat.zero_ne_ofNat, OfNat.one_ne_ofNat] <;>
    ring

/-- Hexahedra: `MeshHex1` stores the vertices of a facet in the cyclic order of the first adjacent cell
    (`sort=False`); from either neighbour they are the vertices of a local facet (table `RefHex.facets`)
    in one of the eight cyclic orders.  `G(s)` (`bndmap` with `ElementQuad1`) is the image under the
    trilinear cell map of the reference facet point. -/
theorem C10_facet_param_hex (v : Nat → Nat → K) (loc : Nat → Nat)
    (hloc : ∃ f, f < 6 ∧ ∃ σ ∈ squareSyms,
      ∀ k < 4, loc k = (refHexFacets.getD f []).getD (σ.getD k 0) 0)
    (s : Nat → K) (i : Nat) :
    isoF quad1N quad1Phi (fun k => v (loc k)) s i
      = isoF hex1N hex1Phi v (gammaIso refHexP quad1N quad1Phi loc s) i := by
  obtain ⟨f, hf, σ, hσ, h⟩ := hloc
  -- listed through `σ`, the facet map is that of the tabulated order at the parameter `a`
  let a := isoF quad1N quad1Phi (fun k => refVertex refQuadP (σ.getD k 0)) s
  have e : ∀ w : Nat → Nat → K, isoF quad1N quad1Phi (fun k => w (loc k)) s
      = isoF quad1N quad1Phi (fun k => w ((refHexFacets.getD f []).getD k 0)) a := fun w =>
    (funext fun i => sumN_congr fun k hk => by simp only [h k hk]).trans
      (funext (quad_sym σ hσ (fun k => w ((refHexFacets.getD f []).getD k 0)) s))
  rw [gammaIso_eq_isoF, e v, e (refVertex refHexP)]
  exact hex_facet_canonical f hf v a i

/-- the radicand of `detB` / `detDG` is `|b₁|²` in 2-D and the Gram determinant `|b₁|²|b₂|² − (b₁·b₂)²` of
    the tangents in 3-D, for both classes; in 1-D the factor is 1.  The square root is trusted. -/
theorem C10_surface_factor (B : Nat → Nat → K) :
    affSurfSq 1 B = 1
    ∧ affSurfSq 2 B = dot 2 (fun i => B i 0) (fun i => B i 0)
    ∧ affSurfSq 3 B = dot 3 (fun i => B i 0) (fun i => B i 0) * dot 3 (fun i => B i 1) (fun i => B i 1)
        - dot 3 (fun i => B i 0) (fun i => B i 1) * dot 3 (fun i => B i 0) (fun i => B i 1)
    ∧ isoSurfSq 2 B = affSurfSq 2 B ∧ isoSurfSq 3 B = affSurfSq 3 B := by
  refine ⟨rfl, ?_, ?_, rfl, rfl⟩
  · simp only [affSurfSq, affSurfSq2, dot, sumN_succ, sumN_zero]; ring
  · simp only [affSurfSq, affSurfSq3, dot, sumN_succ, sumN_zero, zero_add]; ring

/-- `FacetBasis` computes the cell reference points of the facet quadrature points as `invF_K(G_f(s))`:
    they are the points `γ(s)` of the reference facet (triangles; tetrahedra below) -/
theorem C10_facetbasis_refpoints_tri (v : Nat → Nat → K) (loc : Nat → Nat) (h0 : loc 0 ≤ 2)
    (h1 : loc 1 ≤ 2) (s : Nat → K) (hdet : affDet 2 (affA v) ≠ 0) (j : Nat) (hj : j < 2) :
    cellInvF 2 v (facetG 2 (fun k => v (loc k)) s) j = gammaSimplex refTriP 2 loc s j := by
  rw [← C10_affine_invF_F 2 (by omega) (affA v) (affb v) (gammaSimplex refTriP 2 loc s) hdet j hj]
  simp only [cellInvF, affInvF, mulVec]
  exact sumN_congr fun k hk => by rw [C10_facet_param_tri v loc h0 h1 s k hk, cellF]

theorem C10_facetbasis_refpoints_tet (v : Nat → Nat → K) (loc : Nat → Nat) (h0 : loc 0 ≤ 3)
    (h1 : loc 1 ≤ 3) (h2 : loc 2 ≤ 3) (s : Nat → K) (hdet : affDet 3 (affA v) ≠ 0) (j : Nat)
    (hj : j < 3) :
    cellInvF 3 v (facetG 3 (fun k => v (loc k)) s) j = gammaSimplex refTetP 3 loc s j := by
  rw [← C10_affine_invF_F 3 (by omega) (affA v) (affb v) (gammaSimplex refTetP 3 loc s) hdet j hj]
  simp only [cellInvF, affInvF, mulVec]
  exact sumN_congr fun k hk => by rw [C10_facet_param_tet v loc h0 h1 h2 s k hk, cellF]

/-! ### normals: `n = invDFᵀ n̂_i / |invDFᵀ n̂_i|` -/

/-- the einsum string of both `normals` methods contracts the FIRST index of `invDF` (transpose) -/
theorem C10_normal_contraction : affNormalTransposed = true ∧ isoNormalTransposed = true := ⟨rfl, rfl⟩

/-- `MappingAffine.normals` carries its own copy of the reference normals: it is the `refdom` table -/
theorem C10_affine_reference_normals :
    affNref 1 = refLineNormals ∧ affNref 2 = refTriNormals ∧ affNref 3 = refTetNormals := by decide

/-- every reference cell of `refdom.py`, by evaluation: the tabulated normal of local facet `i` is
    orthogonal to the facet and `n̂_i · (X̂_c − X̂_a) < 0` for every vertex `a` on and `c` off the facet -/
theorem C10_reference_normals_outward : ∀ rc ∈ refCells, refOutward rc := refCells_outward

/-- `(DF⁻ᵀ N) · (DF u) = N · u` for the delivered inverse Jacobians of both classes -/
theorem C10_normal_transport (d : Nat) (hd : d = 1 ∨ d = 2 ∨ d = 3) (J : Nat → Nat → K) (N u : Nat → K) :
    (affDet d J ≠ 0 → dot d (rawNormal affNormalTransposed d (affInv d J) N) (mulVec d J u) = dot d N u)
    ∧ (isoDet d J ≠ 0 →
        dot d (rawNormal isoNormalTransposed d (isoInv d J) N) (mulVec d J u) = dot d N u) :=
  ⟨fun h => normal_transport (fun i hi j hj => affInv_mul d hd J h i j hi hj) N u,
    fun h => isoInv_eq_affInv d J ▸
      normal_transport (fun i hi j hj => affInv_mul d hd J (isoDet_eq_affDet d J ▸ h) i j hi hj) N u⟩

/-- every cell type, straight or curved, at any point: the raw normal of local facet `i` annihilates
    the image under `DF` of every reference edge vector of the facet, i.e. every tangent of the mapped
    facet -/
theorem C10_normal_orthogonal (rc : RefCell) (hrc : rc ∈ refCells) (J : Nat → Nat → K)
    (hdet : isoDet rc.d J ≠ 0) (i : Nat) (hi : i < rc.F.length) (a b : Nat)
    (ha : a ∈ rc.F.getD i []) (hb : b ∈ rc.F.getD i []) :
    dot rc.d (isoRawNormal rc.d rc.N J i)
      (mulVec rc.d J (fun j => refVertex rc.P b j - refVertex rc.P a j)) = 0 := by
  rw [iso_normal_cast rc hrc J hdet, ((C10_reference_normals_outward rc hrc) i hi a ha).1 b hb]
  exact Int.cast_zero

section Ordered
variable [LinearOrder K] [IsStrictOrderedRing K]

/-- outward whatever the sign of the determinant: the raw normal of local facet `i` has a negative
    product with the image under `DF` of every reference vector from a vertex of the facet to a vertex
    off it (a direction into the cell) -/
theorem C10_normal_outward (rc : RefCell) (hrc : rc ∈ refCells) (J : Nat → Nat → K)
    (hdet : isoDet rc.d J ≠ 0) (i : Nat) (hi : i < rc.F.length) (a c : Nat)
    (ha : a ∈ rc.F.getD i []) (hc : c < rc.P.length) (hc' : c ∉ rc.F.getD i []) :
    dot rc.d (isoRawNormal rc.d rc.N J i)
      (mulVec rc.d J (fun j => refVertex rc.P c j - refVertex rc.P a j)) < 0 := by
  rw [iso_normal_cast rc hrc J hdet]
  exact Int.cast_lt_zero.2 (((C10_reference_normals_outward rc hrc) i hi a ha).2 c hc hc')

/-- the same for an affine simplex in terms of its VERTICES: the raw normal of `MappingAffine.normals`
    for local facet `i` satisfies `n · (x_c − x_a) < 0` (`x_a` on, `x_c` off the facet) -/
theorem C10_normal_outward_simplex (v : Nat → Nat → K) (i a c : Nat) :
    (affDet 2 (affA v) ≠ 0 → i < 3 → a ∈ refTriFacets.getD i [] → c < 3 → c ∉ refTriFacets.getD i [] →
      dot 2 (affRawNormal 2 v i) (fun j => v c j - v a j) < 0)
    ∧ (affDet 3 (affA v) ≠ 0 → i < 4 → a ∈ refTetFacets.getD i [] → c < 4 → c ∉ refTetFacets.getD i [] →
      dot 3 (affRawNormal 3 v i) (fun j => v c j - v a j) < 0) := by
  constructor
  · intro hdet hi ha hc hc'
    refine (simplex_normal_cast triCell (Or.inl rfl) v hdet i a c
      ((simplex_tab triCell (Or.inl rfl)).2.2.2.1 i hi a ha).1 hc).trans_lt ?_
    exact Int.cast_lt_zero.2 (((refCells_outward triCell (simplex_mem _ (Or.inl rfl))) i hi a ha).2 c hc hc')
  · intro hdet hi ha hc hc'
    refine (simplex_normal_cast tetCell (Or.inr rfl) v hdet i a c
      ((simplex_tab tetCell (Or.inr rfl)).2.2.2.1 i hi a ha).1 hc).trans_lt ?_
    exact Int.cast_lt_zero.2 (((refCells_outward tetCell (simplex_mem _ (Or.inr rfl))) i hi a ha).2 c hc hc')

end Ordered

/-- unit length, the square root trusted: if `len ≠ 0` is a square root of the squared length of the raw
    normal (what `np.sqrt(np.sum(n ** 2, axis=0))` returns up to rounding), the delivered `n * (1 / len)`
    has squared length 1 and every inner product is the raw one divided by `len`.  `hd` is not needed. -/
theorem C10_normal_unit_partial (d : Nat) (hd : d = 1 ∨ d = 2 ∨ d = 3) (n w : Nat → K) (len : K)
    (hlen : len * len = lenSq d n) (h0 : len ≠ 0) :
    lenSq d (delivered n len) = 1 ∧ dot d (delivered n len) w = dot d n w / len :=
  ⟨lenSq_delivered d n len hlen h0, dot_delivered d n w len⟩

/-- facet of a simplex, any order of its vertices: `detB² = (det A)² |A⁻ᵀ n̂_i|²`, i.e.
    `|f| / |f̂| = |det A| · |raw normal|` (Nanson) -/
theorem C10_simplex_surface_vs_normal (v : Nat → Nat → K) (loc : Nat → Nat) (i : Nat) :
    (affDet 2 (affA v) ≠ 0 → i < 3 →
      ([loc 0, loc 1] = refTriFacets.getD i [] ∨ [loc 1, loc 0] = refTriFacets.getD i []) →
      affSurfSq 2 (affB (fun k => v (loc k)))
        = affDet 2 (affA v) * affDet 2 (affA v) * lenSq 2 (affRawNormal 2 v i))
    ∧ (affDet 3 (affA v) ≠ 0 → i < 4 →
      (∃ τ ∈ perms3, ∀ k < 3, loc k = (refTetFacets.getD i []).getD (τ.getD k 0) 0) →
      affSurfSq 3 (affB (fun k => v (loc k)))
        = affDet 3 (affA v) * affDet 3 (affA v) * lenSq 3 (affRawNormal 3 v i)) := by
  constructor
  · intro hdet hi hloc
    exact nanson_tri v hdet i hi loc hloc
  · intro hdet hi ⟨τ, hτ, hloc⟩
    rw [← nanson_tet_canonical v hdet i hi]
    exact surf3_perm _ _ τ hτ (fun k hk => by rw [hloc k hk])

/-- divergence identity, raw form: `Σ_i (A⁻ᵀ n̂_i) · x_i = 1` for ANY choice of a vertex `x_i` on every
    facet `i` -/
theorem C10_cell_divergence (v : Nat → Nat → K) (a : Nat → Nat) :
    (affDet 2 (affA v) ≠ 0 → (∀ i < 3, a i ∈ refTriFacets.getD i []) →
      sumN 3 (fun i => dot 2 (affRawNormal 2 v i) (v (a i))) = 1)
    ∧ (affDet 3 (affA v) ≠ 0 → (∀ i < 4, a i ∈ refTetFacets.getD i []) →
      sumN 4 (fun i => dot 3 (affRawNormal 3 v i) (v (a i))) = 1) :=
  ⟨fun hdet ha => simplex_divergence triCell (Or.inl rfl) v hdet a ha,
    fun hdet ha => simplex_divergence tetCell (Or.inr rfl) v hdet a ha⟩

section Ordered2
variable [LinearOrder K] [IsStrictOrderedRing K]

/-- the divergence identity with the delivered quantities, the square roots given as witnesses: `σ_i`
    (`detB` of facet `i`) and `ℓ_i` (length of the raw normal), `n_i = raw_i / ℓ_i` the delivered normal,
    `x_i` a vertex of facet `i`.  Then `Σ_i |f̂| σ_i (x_i · n_i) = d · |det A| / d!`, i.e.
    `Σ_f |f| x_f·n_f = d |K|`, whatever the sign of `det A` and the order of the facets' vertices. -/
theorem C10_cell_divergence_measure (v : Nat → Nat → K) (loc : Nat → Nat → Nat) (a : Nat → Nat)
    (σ ℓ : Nat → K) :
    (affDet 2 (affA v) ≠ 0 →
      (∀ i < 3, a i ∈ refTriFacets.getD i []
        ∧ ([loc i 0, loc i 1] = refTriFacets.getD i [] ∨ [loc i 1, loc i 0] = refTriFacets.getD i [])
        ∧ 0 ≤ σ i ∧ σ i * σ i = affSurfSq 2 (affB (fun k => v (loc i k)))
        ∧ 0 < ℓ i ∧ ℓ i * ℓ i = lenSq 2 (affRawNormal 2 v i)) →
      sumN 3 (fun i => 1 * σ i * dot 2 (delivered (affRawNormal 2 v i) (ℓ i)) (v (a i)))
        = 2 * (|affDet 2 (affA v)| / 2))
    ∧ (affDet 3 (affA v) ≠ 0 →
      (∀ i < 4, a i ∈ refTetFacets.getD i []
        ∧ (∃ τ ∈ perms3, ∀ k < 3, loc i k = (refTetFacets.getD i []).getD (τ.getD k 0) 0)
        ∧ 0 ≤ σ i ∧ σ i * σ i = affSurfSq 3 (affB (fun k => v (loc i k)))
        ∧ 0 < ℓ i ∧ ℓ i * ℓ i = lenSq 3 (affRawNormal 3 v i)) →
      sumN 4 (fun i => 1 / 2 * σ i * dot 3 (delivered (affRawNormal 3 v i) (ℓ i)) (v (a i)))
        = 3 * (|affDet 3 (affA v)| / 6)) := by
  constructor
  · intro hdet h
    rw [sum_facet_terms 3 2 _ (fun i => v (a i)) σ ℓ _ 1 _
        (fun i hi => (C10_simplex_surface_vs_normal v (loc i) i).1 hdet hi (h i hi).2.1)
        (fun i hi => (h i hi).2.2),
      (C10_cell_divergence v a).1 hdet fun i hi => (h i hi).1]
    ring
  · intro hdet h
    rw [sum_facet_terms 4 3 _ (fun i => v (a i)) σ ℓ _ (1 / 2) _
        (fun i hi => (C10_simplex_surface_vs_normal v (loc i) i).2 hdet hi (h i hi).2.1)
        (fun i hi => (h i hi).2.2),
      (C10_cell_divergence v a).2 hdet fun i hi => (h i hi).1]
    ring

end Ordered2

end Field

/-- every output allocation of `Fmap/_J/bndmap/bndJ` in the live source sizes the point axis with
    `X.shape[-1]` -/
theorem C10_iso_point_axis : ∀ k ∈ isoPointAxes, k = -1 := by decide

/-- with `X.shape[-1]` the output `(ncells, npts)` matches the basis values for BOTH point layouts:
    shared `(dim, npts)` (values of shape `(npts)`) and per-cell `(dim, ncells, npts)` -/
theorem C10_out_shape (k : Int) (hk : k = -1) (dim ncells npts : Nat) :
    outCols k [dim, npts] = some npts ∧ broadcastsInto ncells npts [npts] = true
    ∧ outCols k [dim, ncells, npts] = some npts ∧ broadcastsInto ncells npts [ncells, npts] = true := by
  subst hk
  simp [outCols, pyIndex, broadcastsInto]

/-- the pinned tree used `X.shape[1]` when `tind`/`find` is `None`: per-cell points `(2, 4, 3)` on four
    cells allocate `(4, 4)` against basis values `(4, 3)`: not broadcastable (F16) -/
theorem C10_out_shape_old_counterexample :
    outCols 1 [2, 4, 3] = some 4 ∧ broadcastsInto 4 4 [4, 3] = false := by decide

/-- the live `hash_args` hashes shape, dtype and bytes of an array argument -/
theorem C10_cache_key_fields :
    "shape" ∈ hashKeyFields ∧ "dtype" ∈ hashKeyFields ∧ "tobytes" ∈ hashKeyFields := by
  simp [hashKeyFields]

/-- a key over (at least) shape, dtype and bytes separates any two different arrays: a cached Jacobian is
    only returned for the same `(i, j, X, tind)` -/
theorem C10_cache_key_injective (fields : List String)
    (h : "shape" ∈ fields ∧ "dtype" ∈ fields ∧ "tobytes" ∈ fields) (a b : Arr)
    (hk : arrKey fields a = arrKey fields b) : a = b := by
  obtain ⟨h1, h2, h3⟩ := h
  have hall := List.map_inj_left.mp hk
  have e1 := hall "shape" h1
  have e2 := hall "dtype" h2
  have e3 := hall "tobytes" h3
  simp at e1 e2 e3
  cases a; cases b
  simp_all

/-- the pinned tree hashed the bytes only: `tind = int64 [1]` and `tind = int32 [1, 0]` get the same key
    although they are different arrays (F11) -/
theorem C10_cache_key_old_counterexample :
    arrKey ["tobytes"] (intArr 8 [1]) = arrKey ["tobytes"] (intArr 4 [1, 0])
    ∧ intArr 8 [1] ≠ intArr 4 [1, 0] := by
  constructor
  · simp [arrKey, intArr, leBytes, List.range_succ]
  · intro h
    have := congrArg Arr.shape h
    simp [intArr] at this

/-- the 3-4-5 triangle (0,0), (4,0), (0,3) -/
def exTri : Nat → Nat → ℚ
  | 1, 0 => 4
  | 2, 1 => 3
  | _, _ => 0

/-- the tetrahedron (0,0,0), (3,0,0), (0,2,0), (0,0,1): every face has a rational area -/
def exTet : Nat → Nat → ℚ
  | 1, 0 => 3
  | 2, 1 => 2
  | 3, 2 => 1
  | _, _ => 0

example : affDet 1 (affA exTri) ≠ 0 ∧ affDet 2 (affA exTri) ≠ 0 ∧ affDet 3 (affA exTet) ≠ 0
    ∧ isoDet 2 (affA exTri) ≠ 0 ∧ isoDet 3 (affA exTet) ≠ 0 := by
  decide +kernel

-- the hypotheses of `C10_cell_divergence_measure` for the 3-4-5 triangle
-- (surface factors 4, 5, 3; lengths of the raw normals 1/3, 5/12, 1/4) …
example : ∀ i < 3,
    (fun i => [0, 1, 0].getD i 0) i ∈ refTriFacets.getD i []
    ∧ ([(fun i k => (refTriFacets.getD i []).getD k 0) i 0,
        (fun i k => (refTriFacets.getD i []).getD k 0) i 1] = refTriFacets.getD i [] ∨ False)
    ∧ 0 ≤ (fun i => ([4, 5, 3] : List ℚ).getD i 0) i
    ∧ (fun i => ([4, 5, 3] : List ℚ).getD i 0) i * (fun i => ([4, 5, 3] : List ℚ).getD i 0) i
        = affSurfSq 2 (affB (fun k => exTri ((fun i k => (refTriFacets.getD i []).getD k 0) i k)))
    ∧ 0 < (fun i => ([1/3, 5/12, 1/4] : List ℚ).getD i 0) i
    ∧ (fun i => ([1/3, 5/12, 1/4] : List ℚ).getD i 0) i
        * (fun i => ([1/3, 5/12, 1/4] : List ℚ).getD i 0) i
        = lenSq 2 (affRawNormal 2 exTri i) := by
  decide +kernel

-- … and for the tetrahedron (surface factors 6, 3, 2, 7; lengths 1, 1/2, 1/3, 7/6)
example : ∀ i < 4,
    (fun i => [0, 0, 0, 1].getD i 0) i ∈ refTetFacets.getD i []
    ∧ (∃ τ ∈ perms3, ∀ k < 3, (fun i k => (refTetFacets.getD i []).getD k 0) i k
          = (refTetFacets.getD i []).getD (τ.getD k 0) 0)
    ∧ 0 ≤ (fun i => ([6, 3, 2, 7] : List ℚ).getD i 0) i
    ∧ (fun i => ([6, 3, 2, 7] : List ℚ).getD i 0) i * (fun i => ([6, 3, 2, 7] : List ℚ).getD i 0) i
        = affSurfSq 3 (affB (fun k => exTet ((fun i k => (refTetFacets.getD i []).getD k 0) i k)))
    ∧ 0 < (fun i => ([1, 1/2, 1/3, 7/6] : List ℚ).getD i 0) i
    ∧ (fun i => ([1, 1/2, 1/3, 7/6] : List ℚ).getD i 0) i
        * (fun i => ([1, 1/2, 1/3, 7/6] : List ℚ).getD i 0) i
        = lenSq 3 (affRawNormal 3 exTet i) := by
  decide +kernel

-- a facet of a hexahedron in another cyclic order; an edge of a quadrilateral against its local direction
example : ∃ f, f < 6 ∧ ∃ σ ∈ squareSyms,
    ∀ k < 4, (fun k => [4, 7, 6, 2].getD k 0) k = (refHexFacets.getD f []).getD (σ.getD k 0) 0 :=
  ⟨3, by omega, [1, 2, 3, 0], by simp [squareSyms], by decide⟩

example : ∃ f, f < 4 ∧
    ([(fun k => [3, 2].getD k 0) 0, (fun k => [3, 2].getD k 0) 1] = refQuadFacets.getD f []
    ∨ [(fun k => [3, 2].getD k 0) 1, (fun k => [3, 2].getD k 0) 0] = refQuadFacets.getD f []) :=
  ⟨2, by omega, Or.inr (by decide)⟩

-- `C10_normal_outward`: hexahedron, facet 3, vertex 2 on, 0 off
example : (⟨3, refHexP, refHexFacets, refHexNormals⟩ : RefCell) ∈ refCells ∧ 3 < refHexFacets.length
    ∧ 2 ∈ refHexFacets.getD 3 [] ∧ 0 < refHexP.length ∧ 0 ∉ refHexFacets.getD 3 [] := by
  simp [refCells, refHexFacets, refHexP]

-- `C10_normal_unit_partial`: raw normal (3, 4), `len = 5`
example : (5 : ℚ) * 5 = lenSq 2 (fun j => ([3, 4] : List ℚ).getD j 0) ∧ (5 : ℚ) ≠ 0 := by
  decide +kernel

end Skv.C10
