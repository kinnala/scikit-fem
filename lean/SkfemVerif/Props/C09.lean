import SkfemVerif.Model.Poly
import SkfemVerif.Gen.ShapeFacts
import SkfemVerif.Lemmas.Poly
import Mathlib.Algebra.Polynomial.Derivative
import Mathlib.Data.Nat.Factorial.Basic
import Mathlib.Algebra.MvPolynomial.PDeriv
import Mathlib.Algebra.MvPolynomial.Eval
import Mathlib.Algebra.Order.Field.Rat
import Mathlib.Algebra.Order.BigOperators.Group.Finset
import Mathlib.LinearAlgebra.Matrix.NonsingularInverse
/-
C09  Shape functions: derivatives are true derivatives; duality; partition of unity.

Model: Model/Poly.lean (term-list polynomials over ℚ, formal `pderiv`, reflection checks).
`Gen/Shapes.lean` is REGENERATED on every run by running the real `Element.lbasis` of every
traceable exported element on exact symbolic polynomials; `Gen/ShapeFacts.lean` holds the
kernel-checked facts (`decide +kernel`): declared gradient/divergence/curl = formal derivative of
the declared value (coefficient-wise within 2^-40), nodal duality, partition of unity, moment
duality, plus the aggregated `h1Elements_ok`, `hdivElements_ok`, `hcurl2Elements_ok`,
`hcurl3Elements_ok`.  This file supplies the MEANING of those checks:
the formal derivative of the model IS Mathlib's `MvPolynomial.pderiv` (so "true derivative"),
coefficient-wise closeness bounds the pointwise difference on the reference cell, and the power
basis / Vandermonde construction of the globally defined elements delivers derivatives and
duality for all degrees.

The statements are written with `toMv d p` (the term-list polynomial as a Mathlib
`MvPolynomial (Fin d) ℚ`) and `WF d p` (all exponent vectors have length `d`) of `Lemmas/Poly.lean`.
-/
namespace Skv.C09

/-- evaluation of the model = evaluation of the Mathlib polynomial.  `hp` is not needed: `getD` pads
    short exponent vectors with 0 where `monoEval` truncates. -/
theorem C09_eval_toMv (d : Nat) (p : Poly) (hp : WF d p) (x : Fin d → ℚ) :
    MvPolynomial.eval x (toMv d p) = p.eval ((List.finRange d).map x) :=
  eval_toMv d p x

/-- the formal derivative of the model is the true (Mathlib) partial derivative.  `hp` is not
    needed. -/
theorem C09_pderiv_sound (d : Nat) (p : Poly) (hp : WF d p) (i : Fin d) :
    toMv d (p.pderiv i.val) = MvPolynomial.pderiv i (toMv d p) :=
  toMv_pderiv d p i

theorem C09_pderiv_wf (d : Nat) (p : Poly) (hp : WF d p) (i : Nat) : WF d (p.pderiv i) := by
  intro t ht
  obtain ⟨s, hs, hst⟩ := List.mem_filterMap.mp ht
  simp only at hst
  split at hst
  · exact nomatch hst
  · rw [← Option.some.inj hst]
    simpa using hp s hs

/-- coefficient-wise closeness (`close`) bounds the pointwise difference at every point of the unit
    box (all reference cells lie in it) by `tol` times the number of terms -/
theorem C09_close_sound (p q : Poly) (tol : ℚ) (h : Poly.close p q tol = true)
    (x : List ℚ) (hx : ∀ a ∈ x, 0 ≤ a ∧ a ≤ 1) :
    |p.eval x - q.eval x| ≤ tol * ((p.length + q.length : Nat) : ℚ) := by
  rw [close_iff] at h
  rw [← exps_length p, ← exps_length q, ← List.length_append, eval_sub_eq_sum]
  set S : Finset Mono := (p.exps ++ q.exps).toFinset
  have hterm : ∀ e ∈ S, |(p.coeff e - q.coeff e) * Poly.monoEval x e| ≤ tol := fun e he => by
    have hb := monoEval_bounds x hx e
    rw [abs_mul, abs_of_nonneg hb.1]
    exact (mul_le_of_le_one_right (abs_nonneg _) hb.2).trans (h e (List.mem_toFinset.mp he))
  refine (Finset.abs_sum_le_sum_abs _ _).trans ((Finset.sum_le_card_nsmul S _ tol hterm).trans ?_)
  rw [nsmul_eq_mul, mul_comm]
  -- `0 ≤ tol` is known only when some exponent vector is listed
  rcases S.eq_empty_or_nonempty with hS | ⟨e, he⟩
  · rw [hS, (List.toFinset_eq_empty_iff _).mp hS]
    simp
  · exact mul_le_mul_of_nonneg_left (by exact_mod_cast List.toFinset_card_le _)
      ((abs_nonneg _).trans (hterm e he))

/-- every traced H1 element: for every local basis function `j` and direction `a`, the declared
    gradient component differs from the formal derivative of the declared value by at most
    `2^-40 · (#terms)` at every point of the unit box -/
theorem C09_h1_gradients (E : Nat × List Poly × List (List Poly)) (hE : E ∈ Gen.Shapes.h1Elements)
    (j : Nat) (hj : j < E.2.1.length) (a : Nat) (ha : a < E.1)
    (x : List ℚ) (hx : ∀ c ∈ x, 0 ≤ c ∧ c ≤ 1) :
    |((E.2.1.getD j []).pderiv a).eval x - ((E.2.2.getD j []).getD a []).eval x|
      ≤ Gen.Shapes.shapeTol *
        (((((E.2.1.getD j []).pderiv a).length + ((E.2.2.getD j []).getD a []).length : Nat)) : ℚ) :=
  C09_close_sound _ _ _
    (checkGrad_sound E.1 E.2.1 E.2.2 _ (Gen.Shapes.h1Elements_ok E hE) j hj a ha) x hx

/-- the same for the divergence of every traced H(div) element -/
theorem C09_hdiv_divergences (E : Nat × List (List Poly) × List Poly) (hE : E ∈ Gen.Shapes.hdivElements)
    (j : Nat) (hj : j < E.2.1.length) (x : List ℚ) (hx : ∀ c ∈ x, 0 ≤ c ∧ c ≤ 1) :
    |(Poly.sum ((List.range E.1).map (fun i => ((E.2.1.getD j []).getD i []).pderiv i))).eval x
        - (E.2.2.getD j []).eval x|
      ≤ Gen.Shapes.shapeTol *
        ((((Poly.sum ((List.range E.1).map (fun i => ((E.2.1.getD j []).getD i []).pderiv i))).length
            + (E.2.2.getD j []).length : Nat)) : ℚ) :=
  C09_close_sound _ _ _
    (checkDiv_sound E.1 E.2.1 E.2.2 _ (Gen.Shapes.hdivElements_ok E hE) j hj) x hx

/-- nodal duality check, unfolded: `φ_i(x_j) = δ_ij` within `tol` -/
theorem C09_dual_sound (vals : List Poly) (nodes : List (Nat × List ℚ)) (tol : ℚ)
    (h : checkDual vals nodes tol = true) (i j : Nat) (xi xj : List ℚ)
    (hi : (i, xi) ∈ nodes) (hj : (j, xj) ∈ nodes) :
    |(vals.getD i []).eval xj - (if i = j then 1 else 0)| ≤ tol := by
  have h2 := List.all_eq_true.mp (List.all_eq_true.mp h (j, xj) hj) (i, xi) hi
  rw [decide_eq_true_eq, ratAbs_eq_abs] at h2
  simpa using h2

/-- partition of unity check, unfolded: the listed functions sum to one at every point of the
    unit box, within `tol · (#terms + 1)` -/
theorem C09_pou_sound (dim : Nat) (vals : List Poly) (idx : List Nat) (tol : ℚ)
    (h : checkPou dim vals idx tol = true) (x : List ℚ) (hx : ∀ c ∈ x, 0 ≤ c ∧ c ≤ 1) :
    |(Poly.sum (idx.map (fun i => vals.getD i []))).eval x - 1|
      ≤ tol * (((Poly.sum (idx.map (fun i => vals.getD i []))).length + 1 : Nat) : ℚ) := by
  have := C09_close_sound _ _ tol h x hx
  rwa [eval_const_one] at this

/-- globally defined elements, `_pbasis_create` for ALL `i`, `dx`: the coefficient loop and exponent
    rule deliver the `dx`-th derivative of `x^i` (iterating `c x^k ↦ c k x^(k-1)`), including
    `i < dx` (zero) -/
theorem C09_global_monomials (i dx : Nat) :
    (pbasisCoeff i dx, pbasisExp i dx) = iterDeriv dx (1, i) := by
  rw [iterDeriv_one_eq, pbasisCoeff_eq_descFactorial, pbasisExp]

/-- closed form: descending factorial -/
theorem C09_global_monomials_closed (i dx : Nat) (h : dx ≤ i) :
    pbasisCoeff i dx * (Nat.factorial (i - dx) : Int) = (Nat.factorial i : Int) := by
  rw [pbasisCoeff_eq_descFactorial, mul_comm]
  exact_mod_cast Nat.factorial_mul_descFactorial h

theorem C09_global_monomials_zero (i dx : Nat) (h : i < dx) : pbasisCoeff i dx = 0 := by
  rw [pbasisCoeff_eq_descFactorial, Nat.descFactorial_eq_zero_iff_lt.mpr h]
  rfl

/-- one step of `iterDeriv` is the derivative of a monomial in Mathlib's sense -/
theorem C09_iterDeriv_step (c : Int) (k : Nat) :
    Polynomial.derivative (Polynomial.C (c : ℚ) * Polynomial.X ^ k)
      = Polynomial.C (((iterDeriv 1 (c, k)).1 : Int) : ℚ) * Polynomial.X ^ (iterDeriv 1 (c, k)).2 := by
  rw [Polynomial.derivative_C_mul_X_pow]
  simp only [iterDeriv]
  push_cast
  rfl

/-- Vandermonde duality: if `V` is a right inverse of the matrix `M j k = L j (m k)` of the defining
    functionals on the power basis, the delivered basis `φ i = Σ_k V k i • m k` satisfies
    `L j (φ i) = δ_ji` — for ANY linear functionals (point values, derivatives, normal derivatives,
    edge means …): Morley, Argyris, Hermite, BFS, HexC1 alike -/
theorem C09_vandermonde_dual {n : Nat} {W : Type} [AddCommGroup W] [Module ℚ W]
    (m : Fin n → W) (L : Fin n → W →ₗ[ℚ] ℚ) (V : Matrix (Fin n) (Fin n) ℚ)
    (hV : (Matrix.of (fun j k => L j (m k))) * V = 1) (i j : Fin n) :
    L j (∑ k, V k i • m k) = if j = i then 1 else 0 := by
  have h := congrFun (congrFun hV j) i
  rw [Matrix.mul_apply, Matrix.one_apply] at h
  rw [map_sum, ← h]
  refine Finset.sum_congr rfl (fun k _ => ?_)
  rw [map_smul, smul_eq_mul, Matrix.of_apply, mul_comm]

/-- the delivered derivative fields of a globally defined element are the derivatives of its
    delivered value: the same coefficients `V k i` multiply the power basis functions and their
    derivatives (linearity of differentiation) -/
theorem C09_global_derivative {n : Nat} (m : Fin n → Polynomial ℚ) (V : Matrix (Fin n) (Fin n) ℚ)
    (i : Fin n) :
    Polynomial.derivative (∑ k, Polynomial.C (V k i) * m k)
      = ∑ k, Polynomial.C (V k i) * Polynomial.derivative (m k) := by
  rw [Polynomial.derivative_sum]
  exact Finset.sum_congr rfl (fun k _ => Polynomial.derivative_C_mul _ _)

example : Gen.Shapes.h1Elements ≠ [] := by decide
example : Poly.pderiv [((3 : Rat), [2, 1])] 0 = [((6 : Rat), [1, 1])] := by decide +kernel
example : (pbasisCoeff 5 2, pbasisExp 5 2) = (20, 3) := by decide
example : pbasisCoeff 1 3 = 0 := by decide

end Skv.C09
