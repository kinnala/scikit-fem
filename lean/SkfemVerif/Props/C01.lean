import SkfemVerif.Model.Assembly
import SkfemVerif.Lemmas.Assembly
import Mathlib.Algebra.BigOperators.Group.Finset.Basic
import Mathlib.Algebra.BigOperators.Pi
import Mathlib.Algebra.BigOperators.Ring.Finset
import Mathlib.Algebra.Module.Pi
import Mathlib.Tactic.Ring
/-
C01  Assembled matrix, vector and scalar represent the weak form.

Model: Model/Assembly.lean (`bilinearTriplets`, `linearPairs`, `functionalValue`, `interp`,
`actionBil`, `denseEntry`, the integrand grammar `Term`/`evalForm`).
Tie: correspondence ops `asm.bilinear`, `asm.linear`, `asm.functional`, `asm.interp`
run the model on the implementation's own `element_dofs`, `basis`, `dx` (exact rationals of the
doubles) and compare with the raw output of `_assemble`.

`K` is any commutative ring (ℝ, ℂ, ℚ alike).  `IsBilinear` / `IsLinear` (additive and homogeneous
in the trial resp. test argument) is what "linear in each argument function" means.
-/
namespace Skv.C01

variable {K : Type} [CommRing K]

structure IsBilinear (f : Sample K → Sample K → Sample K → K) : Prop where
  add_left : ∀ a a' b w, f (a + a') b w = f a b w + f a' b w
  smul_left : ∀ (c : K) a b w, f (c • a) b w = c * f a b w
  zero_left : ∀ b w, f 0 b w = 0
  add_right : ∀ a b b' w, f a (b + b') w = f a b w + f a b' w
  smul_right : ∀ (c : K) a b w, f a (c • b) w = c * f a b w
  zero_right : ∀ a w, f a 0 w = 0

structure IsLinear (f : Sample K → Sample K → K) : Prop where
  add : ∀ b b' w, f (b + b') w = f b w + f b' w
  smul : ∀ (c : K) b w, f (c • b) w = c * f b w
  zero : ∀ w, f 0 w = 0

theorem IsBilinear.map_sum_left {f : Sample K → Sample K → Sample K → K} (hf : IsBilinear f)
    (n : Nat) (c : Nat → K) (a : Nat → Sample K) (b w : Sample K) :
    f (∑ j ∈ Finset.range n, c j • a j) b w = ∑ j ∈ Finset.range n, c j * f (a j) b w :=
  map_sum_smul_of_linear (fun a => f a b w) (fun a a' => hf.add_left a a' b w)
    (fun c a => hf.smul_left c a b w) (hf.zero_left b w) n c a

theorem IsBilinear.map_sum_right {f : Sample K → Sample K → Sample K → K} (hf : IsBilinear f)
    (n : Nat) (c : Nat → K) (a : Sample K) (b : Nat → Sample K) (w : Sample K) :
    f a (∑ i ∈ Finset.range n, c i • b i) w = ∑ i ∈ Finset.range n, c i * f a (b i) w :=
  map_sum_smul_of_linear (fun b => f a b w) (fun b b' => hf.add_right a b b' w)
    (fun c b => hf.smul_right c a b w) (hf.zero_right a w) n c b

theorem IsLinear.map_sum {f : Sample K → Sample K → K} (hf : IsLinear f)
    (n : Nat) (c : Nat → K) (b : Nat → Sample K) (w : Sample K) :
    f (∑ i ∈ Finset.range n, c i • b i) w = ∑ i ∈ Finset.range n, c i * f (b i) w :=
  map_sum_smul_of_linear (fun b => f b w) (fun b b' => hf.add b b' w) (fun c b => hf.smul c b w)
    (hf.zero w) n c b

/-- position bookkeeping of `bilinear_form.py`: the triplet for local pair `(j, i)` and cell `k`
    sits at flat position `nt * (Nv * j + i) + k`; its row is the TEST dof, its column the TRIAL
    dof, its value the kernel of `(u_j, v_i)` on cell `k`. -/
theorem C01_rows_test_cols_trial (Nu Nv nt nq : Nat) (f : Sample K → Sample K → Sample K → K)
    (ub vb : BasisData K) (w : Nat → Nat → Sample K) (dx : Nat → Nat → K)
    (udofs vdofs : Nat → Nat → Nat) (j i k : Nat) (hj : j < Nu) (hi : i < Nv) (hk : k < nt) :
    (bilinearTriplets Nu Nv nt nq f ub vb w dx udofs vdofs)[flatSlot Nv nt i j k]?
      = some (vdofs i k, udofs j k, kernelBil nq f ub vb w dx j i k) :=
  getElem?_flatMap_flatMap_map_range Nu Nv nt _ j i k hj hi hk

theorem C01_triplet_count (Nu Nv nt nq : Nat) (f : Sample K → Sample K → Sample K → K)
    (ub vb : BasisData K) (w : Nat → Nat → Sample K) (dx : Nat → Nat → K)
    (udofs vdofs : Nat → Nat → Nat) :
    (bilinearTriplets Nu Nv nt nq f ub vb w dx udofs vdofs).length = Nu * Nv * nt :=
  length_flatMap_flatMap_map_range Nu Nv nt _

theorem C01_interp_eq_sum (N : Nat) (x : Nat → K) (dofs : Nat → Nat → Nat) (b : BasisData K)
    (k q : Nat) :
    interp N x dofs b k q = ∑ j ∈ Finset.range N, x (dofs j k) • b j k q :=
  interp_eq_sum_smul N x dofs b k q

/-- `vᵀ A u = a(u_h, v_h)` with the basis' quadrature -/
theorem C01_bilinear_represents (Nu Nv nt nq : Nat) (f : Sample K → Sample K → Sample K → K)
    (hf : IsBilinear f)
    (ub vb : BasisData K) (w : Nat → Nat → Sample K) (dx : Nat → Nat → K)
    (udofs vdofs : Nat → Nat → Nat) (u v : Nat → K) :
    actionBil (bilinearTriplets Nu Nv nt nq f ub vb w dx udofs vdofs) u v
      = ∑ k ∈ Finset.range nt, ∑ q ∈ Finset.range nq,
          f (interp Nu u udofs ub k q) (interp Nv v vdofs vb k q) (w k q) * dx k q := by
  rw [actionBil_bilinearTriplets]
  simp only [kernelBil_eq_sum]
  rw [bilinear_sum_reorder Nu Nv nt nq (fun j i k q => f (ub j k q) (vb i k q) (w k q))
    (fun j k => u (udofs j k)) (fun i k => v (vdofs i k)) dx]
  simp only [C01_interp_eq_sum, hf.map_sum_left, hf.map_sum_right, Finset.mul_sum]

/-- `bᵀ v = l(v_h)` -/
theorem C01_linear_represents (Nv nt nq : Nat) (f : Sample K → Sample K → K) (hf : IsLinear f)
    (vb : BasisData K) (w : Nat → Nat → Sample K) (dx : Nat → Nat → K)
    (vdofs : Nat → Nat → Nat) (v : Nat → K) :
    actionLin (linearPairs Nv nt nq f vb w dx vdofs) v
      = ∑ k ∈ Finset.range nt, ∑ q ∈ Finset.range nq,
          f (interp Nv v vdofs vb k q) (w k q) * dx k q := by
  rw [actionLin_linearPairs]
  simp only [kernelLin_eq_sum]
  rw [linear_sum_reorder Nv nt nq (fun i k q => f (vb i k q) (w k q)) (fun i k => v (vdofs i k)) dx]
  simp only [C01_interp_eq_sum, hf.map_sum]

/-- the functional is the quadrature sum of the integrand -/
theorem C01_functional_eq (nt nq : Nat) (f : Sample K → K) (w : Nat → Nat → Sample K)
    (dx : Nat → Nat → K) :
    functionalValue nt nq f w dx
      = ∑ k ∈ Finset.range nt, ∑ q ∈ Finset.range nq, f (w k q) * dx k q := by
  unfold functionalValue
  rw [sum_map_range]
  exact Finset.sum_congr rfl (fun k _ => sum_map_range nq _)

/-- packing of the interpolated trial field, test field and the parameters into ONE parameter
    sample, the way a `Functional` receives them through `w` -/
def pack3 (a b w : Sample K) : Sample K :=
  fun c => if c % 3 = 0 then a (c / 3) else if c % 3 = 1 then b (c / 3) else w (c / 3)

def unpack (r : Nat) (s : Sample K) : Sample K := fun c => s (3 * c + r)

omit [CommRing K] in
theorem unpack_pack3 (a b w : Sample K) (r : Nat) (hr : r < 3) :
    unpack r (pack3 a b w) = if r = 0 then a else if r = 1 then b else w := by
  funext c
  have h1 : (3 * c + r) % 3 = r := by rw [Nat.mul_add_mod, Nat.mod_eq_of_lt hr]
  have h2 : (3 * c + r) / 3 = c := by
    rw [Nat.mul_add_div (by decide), Nat.div_eq_of_lt hr, Nat.add_zero]
  simp only [unpack, pack3, h1, h2]
  split_ifs <;> rfl

omit [CommRing K] in
theorem unpack_zero_pack3 (a b w : Sample K) : unpack 0 (pack3 a b w) = a :=
  unpack_pack3 a b w 0 (by decide)

omit [CommRing K] in
theorem unpack_one_pack3 (a b w : Sample K) : unpack 1 (pack3 a b w) = b :=
  unpack_pack3 a b w 1 (by decide)

omit [CommRing K] in
theorem unpack_two_pack3 (a b w : Sample K) : unpack 2 (pack3 a b w) = w :=
  unpack_pack3 a b w 2 (by decide)

/-- the three form types are consistent: `vᵀ A u` equals the functional whose integrand is the
    same `f` applied to the interpolated coefficient vectors (handed over as extra parameters) -/
theorem C01_three_forms_consistent (Nu Nv nt nq : Nat) (f : Sample K → Sample K → Sample K → K)
    (hf : IsBilinear f)
    (ub vb : BasisData K) (w : Nat → Nat → Sample K) (dx : Nat → Nat → K)
    (udofs vdofs : Nat → Nat → Nat) (u v : Nat → K) :
    actionBil (bilinearTriplets Nu Nv nt nq f ub vb w dx udofs vdofs) u v
      = functionalValue nt nq
          (fun s => f (unpack 0 s) (unpack 1 s) (unpack 2 s))
          (fun k q => pack3 (interp Nu u udofs ub k q) (interp Nv v vdofs vb k q) (w k q)) dx := by
  rw [C01_bilinear_represents Nu Nv nt nq f hf, C01_functional_eq]
  simp only [unpack_zero_pack3, unpack_one_pack3, unpack_two_pack3]

/-- the same for linear forms: `bᵀ v` equals the functional of `l` on the interpolated `v` -/
theorem C01_linear_functional_consistent (Nv nt nq : Nat) (f : Sample K → Sample K → K)
    (hf : IsLinear f)
    (vb : BasisData K) (w : Nat → Nat → Sample K) (dx : Nat → Nat → K)
    (vdofs : Nat → Nat → Nat) (v : Nat → K) :
    actionLin (linearPairs Nv nt nq f vb w dx vdofs) v
      = functionalValue nt nq
          (fun s => f (unpack 1 s) (unpack 2 s))
          (fun k q => pack3 0 (interp Nv v vdofs vb k q) (w k q)) dx := by
  rw [C01_linear_represents Nv nt nq f hf, C01_functional_eq]
  simp only [unpack_one_pack3, unpack_two_pack3]

/-- `vᵀ A u` computed from the dense entries (rows `< Nr`, columns `< Nc`) equals the triplet sum
    when all triplet indices are in range (shape `(N_test, N_trial)`) -/
theorem C01_coo_dense (T : List (Nat × Nat × K)) (Nr Nc : Nat)
    (hT : ∀ t ∈ T, t.1 < Nr ∧ t.2.1 < Nc) (u v : Nat → K) :
    actionBil T u v
      = ∑ r ∈ Finset.range Nr, ∑ c ∈ Finset.range Nc, v r * denseEntry T r c * u c :=
  actionBil_eq_dense T Nr Nc hT u v

/-- triplets with value zero do not change any dense entry (`eliminate_zeros` is harmless) -/
theorem C01_drop_zeros (T : List (Nat × Nat × K)) [DecidableEq K] (r c : Nat) :
    denseEntry (T.filter (fun t => t.2.2 ≠ 0)) r c = denseEntry T r c := by
  rw [denseEntry_eq_sum_ite, denseEntry_eq_sum_ite, sum_filter_map]
  refine congrArg List.sum (List.map_congr_left (fun t _ => ?_))
  by_cases h : t.2.2 = 0 <;> simp [h]

/-- a matrix entry can be nonzero only if the two DOFs occur together in an integrated cell -/
theorem C01_sparsity (Nu Nv nt nq : Nat) (f : Sample K → Sample K → Sample K → K)
    (ub vb : BasisData K) (w : Nat → Nat → Sample K) (dx : Nat → Nat → K)
    (udofs vdofs : Nat → Nat → Nat) (r c : Nat)
    (h : denseEntry (bilinearTriplets Nu Nv nt nq f ub vb w dx udofs vdofs) r c ≠ 0) :
    ∃ k < nt, (∃ i < Nv, vdofs i k = r) ∧ (∃ j < Nu, udofs j k = c) := by
  obtain ⟨t, ht, hr, hc⟩ := exists_mem_of_denseEntry_ne_zero _ r c h
  obtain ⟨j, hj, i, hi, k, hk, rfl⟩ := mem_bilinearTriplets.1 ht
  exact ⟨k, hk, ⟨i, hi, hr⟩, ⟨j, hj, hc⟩⟩

/-- the theorems above apply to every form the correspondence generates -/
theorem C01_grammar_bilinear (ts : List (Term K)) : IsBilinear (evalForm ts) := by
  induction ts with
  | nil => constructor <;> intros <;> simp [evalForm]
  | cons t ts ih =>
    have hc : ∀ a b w, evalForm (t :: ts) a b w
        = t.coef * a t.uc * b t.vc * w t.wc + evalForm ts a b w := by
      intros; simp [evalForm, Term.eval]
    constructor
    · intro a a' b w
      rw [hc, hc, hc, ih.add_left, Pi.add_apply]; ring
    · intro c a b w
      rw [hc, hc, ih.smul_left, Pi.smul_apply, smul_eq_mul]; ring
    · intro b w
      rw [hc, ih.zero_left, Pi.zero_apply]; ring
    · intro a b b' w
      rw [hc, hc, hc, ih.add_right, Pi.add_apply]; ring
    · intro c a b w
      rw [hc, hc, ih.smul_right, Pi.smul_apply, smul_eq_mul]; ring
    · intro a w
      rw [hc, ih.zero_right, Pi.zero_apply]; ring

theorem C01_grammar_linear (ts : List (Term K)) : IsLinear (evalLinForm ts) := by
  induction ts with
  | nil => constructor <;> intros <;> simp [evalLinForm]
  | cons t ts ih =>
    have hc : ∀ b w, evalLinForm (t :: ts) b w
        = t.coef * b t.vc * w t.wc + evalLinForm ts b w := by
      intros; simp [evalLinForm]
    constructor
    · intro b b' w
      rw [hc, hc, hc, ih.add, Pi.add_apply]; ring
    · intro c b w
      rw [hc, hc, ih.smul, Pi.smul_apply, smul_eq_mul]; ring
    · intro w
      rw [hc, ih.zero, Pi.zero_apply]; ring

/-- concatenating the triplet lists of the parts (`COOData.__add__`, `asm(form, [bases])`) adds the
    matrices entry by entry … -/
theorem C01_dense_append (T1 T2 : List (Nat × Nat × K)) (r c : Nat) :
    denseEntry (T1 ++ T2) r c = denseEntry T1 r c + denseEntry T2 r c :=
  denseEntry_append T1 T2 r c

theorem C01_denseVec_append (T1 T2 : List (Nat × K)) (r : Nat) :
    denseVecEntry (T1 ++ T2) r = denseVecEntry T1 r + denseVecEntry T2 r :=
  denseVecEntry_append T1 T2 r

/-- … and the bilinear / linear actions -/
theorem C01_action_append (T1 T2 : List (Nat × Nat × K)) (u v : Nat → K) :
    actionBil (T1 ++ T2) u v = actionBil T1 u v + actionBil T2 u v :=
  actionBil_append T1 T2 u v

theorem C01_actionLin_append (T1 T2 : List (Nat × K)) (v : Nat → K) :
    actionLin (T1 ++ T2) v = actionLin T1 v + actionLin T2 v :=
  actionLin_append T1 T2 v

/-- the order in which triplets are emitted (cell order, pair order, thread schedule) is
    irrelevant for every entry of the assembled matrix -/
theorem C01_dense_perm (T1 T2 : List (Nat × Nat × K)) (h : T1.Perm T2) (r c : Nat) :
    denseEntry T1 r c = denseEntry T2 r c :=
  denseEntry_perm T1 T2 h r c

/-- a whole list of parts: the dense entry of the joined triplets is the sum over the parts -/
theorem C01_dense_flatten (Ts : List (List (Nat × Nat × K))) (r c : Nat) :
    denseEntry Ts.flatten r c = (Ts.map (fun T => denseEntry T r c)).sum :=
  denseEntry_flatten Ts r c

end Skv.C01
