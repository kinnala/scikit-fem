import SkfemVerif.Model.Conformity
import SkfemVerif.Model.Dofs
import SkfemVerif.Props.C04
import Mathlib.Algebra.BigOperators.Group.List.Basic
/-
C03  Discrete functions are globally continuous in the sense of the element.

Proved here is the LOGIC that makes the one-sided traces agree: (1) two cells that share an entity
reference the same DOF numbers for it (from C04); (2) the sign rules of H(curl) / H(div) /
ElementQuadP turn a per-cell reference quantity into a quantity of the global entity, independent
of the local order in which a cell lists the entity; (3) a trace written as Σ x[dof] ψ(s) is the
same from both sides when the (dof, ψ) lists agree up to order.  The per-element reference facts
these rules need (uniform flux / circulation of the reference functions: `*_moments_ok`) are
kernel-checked in Gen/ShapeFacts.lean on the shape functions traced from the live source.  That
the implementation applies exactly these rules is the correspondence/search part (props/c03.py).
-/
namespace Skv.C03

/-- the orientation sign undoes the local edge direction -/
theorem C03_hcurl_sign (ta tb : Nat) (h : ta ≠ tb) : hcurlOri ta tb * dirSign ta tb = 1 := by
  unfold hcurlOri dirSign
  rcases Nat.lt_or_gt_of_ne h with h1 | h1
  · rw [if_neg (Nat.lt_asymm h1), if_pos h1]
    rfl
  · rw [if_pos h1, if_neg (Nat.lt_asymm h1)]
    rfl

/-- H(curl): if the reference function of a local edge has circulation `c` along the local direction
    `a → b`, the oriented function has circulation `c` along the GLOBAL direction low → high,
    whatever the local direction.  Hence (below) two cells sharing the edge see the same
    circulation, provided `c` is the same for all local edges of the reference element
    (`*_moments_ok`). -/
theorem C03_hcurl_global_circulation (ta tb : Nat) (h : ta ≠ tb) (c : Int) :
    hcurlOri ta tb * (dirSign ta tb * c) = c := by
  rw [← Int.mul_assoc, C03_hcurl_sign ta tb h, Int.one_mul]

theorem C03_hcurl_two_cells (ta tb ta' tb' : Nat) (h : ta ≠ tb) (h' : ta' ≠ tb') (c : Int) :
    hcurlOri ta tb * (dirSign ta tb * c) = hcurlOri ta' tb' * (dirSign ta' tb' * c) := by
  rw [C03_hcurl_global_circulation ta tb h, C03_hcurl_global_circulation ta' tb' h']

/-- the rule needs the uniformity: reference circulations −1 and +1 on one edge (the values of
    `ElementQuadN1` on the pinned tree, F15) give two different global circulations; the statement
    is about the two numbers only -/
theorem C03_quadn1_old_counterexample :
    hcurlOri 0 1 * (dirSign 0 1 * (-1)) ≠ hcurlOri 0 1 * (dirSign 0 1 * 1) := by decide

/-- H(div): on an interior facet the two neighbours get opposite signs … -/
theorem C03_hdiv_opposite (f2t0 k0 k1 : Nat) (h0 : f2t0 = k0) (h1 : k1 ≠ k0) :
    hdivOri f2t0 k0 = 1 ∧ hdivOri f2t0 k1 = -1 := by
  subst h0
  unfold hdivOri
  have : (f2t0 == k1) = false := by simpa using (fun h => h1 h.symm)
  simp [this]

/-- … so the flux in the direction of the FIRST neighbour's outward normal is the same from both
    sides: `(+1) · φ = (−1) · (−φ)`, `−φ` being the second neighbour's reference flux measured
    against the first neighbour's normal -/
theorem C03_hdiv_flux (f2t0 k0 k1 : Nat) (h0 : f2t0 = k0) (h1 : k1 ≠ k0) (flux : Int) :
    hdivOri f2t0 k0 * flux = hdivOri f2t0 k1 * (-flux) := by
  obtain ⟨a, b⟩ := C03_hdiv_opposite f2t0 k0 k1 h0 h1
  rw [a, b]; omega

/-- `ElementQuadP`: reversing the parameter multiplies an edge mode of order `ind` by its parity, and
    the orientation factor cancels exactly that, so the oriented mode read in the global direction
    low → high does not depend on the local traversal direction -/
theorem C03_quadp_mode (ta tb ind : Nat) (h : ta ≠ tb) :
    quadpFactor ta tb ind * (if dirSign ta tb = -1 then modeParity ind else 1) = 1 := by
  unfold quadpFactor modeParity
  split
  · have hd : (if dirSign ta tb = -1 then (-1 : Int) else 1) = dirSign ta tb := by
      unfold dirSign
      split <;> rfl
    rw [hd, C03_hcurl_sign ta tb h]
  · simp

/-- with the factor 1 in place of `quadpFactor` (the pinned tree, F14) the mode of order 3 read by
    two cells traversing the edge in opposite directions differs by the sign -/
theorem C03_quadp_old_counterexample :
    (1 : Int) * (if dirSign 1 0 = -1 then modeParity 3 else 1)
      ≠ (1 : Int) * (if dirSign 0 1 = -1 then modeParity 3 else 1) := by decide

/-- two cells `k`, `k'` that name the same entity in slots `itr`, `itr'` of a connectivity table
    (vertices: `t`, edges: `t2e`, facets: `t2f`) reference the same global DOF number for every
    local DOF `a` of that entity -/
theorem C03_shared_entity_shared_dof (count off : Nat) (conn : List (List Nat)) (itr a k itr' k' : Nat)
    (hitr : itr < conn.length) (ha : a < count) (hk : k < (conn.getD itr []).length)
    (hitr' : itr' < conn.length) (hk' : k' < (conn.getD itr' []).length)
    (hsame : (conn.getD itr []).getD k 0 = (conn.getD itr' []).getD k' 0) :
    ((gatherRows count off conn).getD (itr * count + a) []).getD k 0
      = ((gatherRows count off conn).getD (itr' * count + a) []).getD k' 0 :=
  (C04.C04_share_iff count off conn itr a k itr' a k' hitr ha hk hitr' ha hk').mpr ⟨rfl, hsame⟩

/-- a one-sided trace is `Σ x[dof] · ψ(s)` over the (dof, ψ) pairs of the functions that do not
    vanish on the facet; if both neighbours produce the same pairs up to order, the traces agree for
    EVERY coefficient vector and at EVERY point of the facet -/
theorem C03_trace_eq_of_perm {S : Type} (l l' : List (Nat × (S → Int))) (h : l.Perm l')
    (x : Nat → Int) (s : S) :
    (l.map (fun p => x p.1 * p.2 s)).sum = (l'.map (fun p => x p.1 * p.2 s)).sum :=
  (h.map _).sum_eq

example : hcurlOri 5 2 = -1 ∧ dirSign 5 2 = -1 ∧ hdivOri 3 3 = 1 ∧ hdivOri 3 4 = -1 := by decide
example : quadpFactor 5 2 3 = -1 ∧ quadpFactor 5 2 4 = 1 := by decide

end Skv.C03
