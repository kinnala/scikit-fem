import SkfemVerif.Lemmas.Np
import SkfemVerif.Lemmas.Mpc
/-
C05  Essential boundary conditions: condense, enforce, penalize, expansion.

Model: Model/BC.lean.  Tie: correspondence ops `bc.init`, `bc.condense`, `bc.enforce.idx`,
`bc.enforce`, `bc.penalize` on random sparse systems (rows without stored entries, explicit
zeros, unsymmetric patterns, index sets in any order and with repetitions).
-/
namespace Skv.C05

/-- exactly one of `I`, `D` may be given -/
theorem C05_init_bc_error (n : Nat) (I D : Option (List Nat)) :
    initBC n I D = none ↔ (I = none ∧ D = none) ∨ (I.isSome ∧ D.isSome) := by
  cases I <;> cases D <;> simp [initBC]

/-- when `D` is given (any order, repetitions allowed): the returned `D'` has the same members
    without repetition, `I'` is exactly the set complement in `0 … n-1`, ascending -/
theorem C05_init_bc_D (n : Nat) (D : List Nat) (I' D' : List Nat)
    (h : initBC n none (some D) = some (I', D')) :
    D'.Nodup ∧ (∀ i, i ∈ D' ↔ i ∈ D) ∧ I'.Nodup ∧ (∀ i, i ∈ I' ↔ (i < n ∧ i ∉ D))
      ∧ I'.Pairwise (· < ·) := by
  simp only [initBC, Option.some.injEq, Prod.mk.injEq] at h
  obtain ⟨rfl, rfl⟩ := h
  refine ⟨nodup_unique D, fun i => mem_unique, nodup_complementRange n _, ?_,
    pairwise_complementRange n _⟩
  intro i
  rw [mem_complementRange, mem_unique]

theorem C05_init_bc_I (n : Nat) (I : List Nat) (I' D' : List Nat)
    (h : initBC n (some I) none = some (I', D')) :
    I' = I ∧ D'.Nodup ∧ (∀ i, i ∈ D' ↔ (i < n ∧ i ∉ I)) := by
  simp only [initBC, Option.some.injEq, Prod.mk.injEq] at h
  obtain ⟨rfl, rfl⟩ := h
  exact ⟨rfl, nodup_complementRange n _, fun i => mem_complementRange⟩

section Ring
variable {K : Type} [CommRing K]

/-- the expansion `y = x.copy(); y[I] = sol` restores the prescribed values off `I` … -/
theorem C05_expand_off (x : Nat → K) (I : List Nat) (sol : List K) (i : Nat) (hi : i ∉ I) :
    expandSol x I sol i = x i :=
  expandSol_off x I sol i hi

/-- … and puts `sol[p]` at `I[p]` (for `I` without repetitions, any order) -/
theorem C05_expand_on (x : Nat → K) (I : List Nat) (sol : List K) (hI : I.Nodup)
    (hlen : sol.length = I.length) (p : Nat) (hp : p < I.length) :
    expandSol x I sol (I[p]) = sol[p]'(by omega) :=
  expandSol_on x I sol hI hlen p hp

/-- condense + solve + expand: if `sol` solves the condensed system `A_II sol = b_I − A_ID x_D`,
    the expanded vector equals `x` on `D` and satisfies the ORIGINAL equations on every kept row -/
theorem C05_condense_expand (n : Nat) (A : Nat → Nat → K) (b x : Nat → K) (I D : List Nat)
    (hI : I.Nodup) (hD : D.Nodup) (hdisj : ∀ i, i ∈ I → i ∉ D)
    (hcover : ∀ i, i < n ↔ (i ∈ I ∨ i ∈ D))
    (sol : List K) (hlen : sol.length = I.length)
    (hsol : ∀ p (hp : p < I.length),
      condensedRowApply A I sol (I[p]) = (condenseRhs A b x I D)[p]'(by simp [condenseRhs]; exact hp)) :
    (∀ d ∈ D, expandSol x I sol d = x d)
    ∧ (∀ i ∈ I, matVec n A (expandSol x I sol) i = b i) := by
  refine ⟨fun d hd => expandSol_off x I sol d (fun h => hdisj d h hd), ?_⟩
  intro i hi
  obtain ⟨p, hp, rfl⟩ := List.getElem_of_mem hi
  rw [matVec_expand n A x I D (perm_append_range n I D hI hD hdisj hcover) hI hdisj sol hlen,
    hsol p hp]
  simp only [condenseRhs, List.getElem_map]
  ring

/-- `enforce` (dense semantics): constrained rows are exactly `diag * e_i`, rhs `x_i`; other rows
    untouched -/
theorem C05_enforce_rows (A : Nat → Nat → K) (b x : Nat → K) (D : List Nat) (diag : K) (i j : Nat) :
    (i ∈ D → enforceMat A D diag i j = (if i = j then diag else 0) ∧ enforceRhs b x D i = x i)
    ∧ (i ∉ D → enforceMat A D diag i j = A i j ∧ enforceRhs b x D i = b i) := by
  rw [enforceMat_apply, enforceRhs_apply]
  exact ⟨fun hi => ⟨if_pos hi, if_pos hi⟩, fun hi => ⟨if_neg hi, if_neg hi⟩⟩

/-- `enforce` has the same solutions as the constrained problem: `z` solves the enforced system
    iff (`diag * z_d = x_d` on `D` and the original equations hold on the other rows) -/
theorem C05_enforce_same_solution (n : Nat) (A : Nat → Nat → K) (b x z : Nat → K) (D : List Nat)
    (diag : K) (hD : ∀ d ∈ D, d < n) :
    (∀ i < n, matVec n (enforceMat A D diag) z i = enforceRhs b x D i)
    ↔ ((∀ d ∈ D, diag * z d = x d) ∧ (∀ i < n, i ∉ D → matVec n A z i = b i)) := by
  constructor
  · intro h
    refine ⟨fun d hd => ?_, fun i hin hi => ?_⟩
    · rw [← matVec_enforce_mem n A z D diag d hd (hD d hd), h d (hD d hd), enforceRhs_apply,
        if_pos hd]
    · rw [← matVec_enforce_not_mem n A z D diag i hi, h i hin, enforceRhs_apply, if_neg hi]
  · rintro ⟨h1, h2⟩ i hin
    by_cases hi : i ∈ D
    · rw [matVec_enforce_mem n A z D diag i hi hin, h1 i hi, enforceRhs_apply, if_pos hi]
    · rw [matVec_enforce_not_mem n A z D diag i hi, h2 i hin hi, enforceRhs_apply, if_neg hi]

/-- condense and enforce agree: the expanded solution of the condensed system solves the system
    produced by `enforce` (default `diag = 1`) -/
theorem C05_condense_solves_enforced (n : Nat) (A : Nat → Nat → K) (b x : Nat → K) (I D : List Nat)
    (hI : I.Nodup) (hD : D.Nodup) (hdisj : ∀ i, i ∈ I → i ∉ D)
    (hcover : ∀ i, i < n ↔ (i ∈ I ∨ i ∈ D))
    (sol : List K) (hlen : sol.length = I.length)
    (hsol : ∀ p (hp : p < I.length),
      condensedRowApply A I sol (I[p]) = (condenseRhs A b x I D)[p]'(by simp [condenseRhs]; exact hp)) :
    ∀ i < n, matVec n (enforceMat A D 1) (expandSol x I sol) i = enforceRhs b x D i := by
  obtain ⟨h1, h2⟩ := C05_condense_expand n A b x I D hI hD hdisj hcover sol hlen hsol
  refine (C05_enforce_same_solution n A b x _ D 1 (fun d hd => (hcover d).mpr (Or.inr hd))).mpr ⟨?_, ?_⟩
  · intro d hd; rw [one_mul]; exact h1 d hd
  · intro i hin hi
    rcases (hcover i).mp hin with h | h
    · exact h2 i h
    · exact absurd h hi

/-- `enforce` is idempotent (same `D`, same `diag`) -/
theorem C05_enforce_idempotent (A : Nat → Nat → K) (b x : Nat → K) (D : List Nat) (diag : K) :
    enforceMat (enforceMat A D diag) D diag = enforceMat A D diag
    ∧ enforceRhs (enforceRhs b x D) x D = enforceRhs b x D := by
  constructor
  · funext i j; rw [enforceMat_apply, enforceMat_apply]; split <;> rfl
  · funext i; rw [enforceRhs_apply, enforceRhs_apply]; split <;> rfl

/-- a matrix right-hand side (mass matrix of an eigenproblem) is enforced with `diag = 0`: its
    constrained rows vanish entirely -/
theorem C05_enforce_mass_rows_zero (M : Nat → Nat → K) (D : List Nat) (i j : Nat) (hi : i ∈ D) :
    enforceMat M D 0 i j = 0 := by
  rw [enforceMat_apply, if_pos hi, ite_self]

/-- the enforced matrix and right-hand side depend on `D` only as a set -/
theorem C05_enforce_set_only (A : Nat → Nat → K) (b x : Nat → K) (D D' : List Nat) (diag : K)
    (h : ∀ i, i ∈ D ↔ i ∈ D') :
    enforceMat A D diag = enforceMat A D' diag ∧ enforceRhs b x D = enforceRhs b x D' := by
  constructor
  · funext i j; simp only [enforceMat_apply, h i]
  · funext i; simp only [enforceRhs_apply, h i]

/-- the repaired arithmetic: for every `indptr` and every list `D` of rows (any order; rows WITHOUT
    stored entries included) the computed flat positions are exactly the stored ranges of the rows
    in `D` -/
theorem C05_rowzero_idx (indptr : List Nat) (D : List Nat) :
    rowZeroIdx indptr D = rowRanges indptr D :=
  (rowZero_aux _ _ 0).trans (flatten_zipWith_ranges indptr D)

/-- the arithmetic of the pinned tree was wrong as soon as a constrained row stores no entry: with
    rows 0, 1, 2 constrained and row 1 empty it zeroes one of the three entries of row 2 (position 4)
    and all of the unconstrained row 3 (positions 5, 6) … -/
theorem C05_rowzero_idx_old_counterexample :
    rowZeroIdxOld [0, 2, 2, 5, 7] [0, 1, 2] = some [0, 1, 4, 5, 6]
    ∧ rowRanges [0, 2, 2, 5, 7] [0, 1, 2] = [0, 1, 2, 3, 4] := by
  decide

/-- … or raises when the last constrained row is empty -/
theorem C05_rowzero_idx_old_raises : rowZeroIdxOld [0, 2, 2, 5, 7] [0, 1] = none := by
  decide

/-- zeroing the positions `rowRanges indptr D` zeroes exactly the rows in `D` of the dense matrix and
    leaves every other entry unchanged, for every CSR matrix whose `indptr` is non-decreasing on its
    own index range.  This is the zeroing step of `enforce` only: that `setdiag` then puts `diag`
    on the constrained diagonal, which gives `enforceMat`, is a SciPy contract and not a theorem. -/
theorem C05_zero_rows_dense (m : CSR K) (D : List Nat)
    (hmono : ∀ i, i + 1 < m.indptr.length → m.indptr.getD i 0 ≤ m.indptr.getD (i + 1) 0)
    (i j : Nat) (hi : i + 1 < m.indptr.length) (hD : ∀ d ∈ D, d + 1 < m.indptr.length) :
    (CSR.entry { m with data := zeroAt m.data (rowRanges m.indptr D) } i j)
      = if i ∈ D then 0 else CSR.entry m i j := by
  unfold CSR.entry
  simp only
  by_cases hiD : i ∈ D
  · rw [if_pos hiD]
    apply List.sum_eq_zero
    intro v hv
    simp only [List.mem_map, List.mem_filter, List.mem_range'_1] at hv
    obtain ⟨p, ⟨⟨h1, h2⟩, _⟩, rfl⟩ := hv
    rw [getD_zeroAt, if_pos]
    exact mem_rowRanges.2 ⟨i, hiD, h1, by omega⟩
  · rw [if_neg hiD]
    congr 1
    apply List.map_congr_left
    intro p hp
    simp only [List.mem_filter, List.mem_range'_1] at hp
    obtain ⟨⟨h1, h2⟩, _⟩ := hp
    rw [getD_zeroAt, if_neg]
    rw [mem_rowRanges]
    rintro ⟨d, hd, h3, h4⟩
    have hdl := hD d hd
    rcases Nat.lt_trichotomy d i with hlt | heq | hgt
    · have := indptr_mono_le m.indptr hmono (d + 1) i (by omega) (by omega)
      omega
    · subst heq; exact hiD hd
    · have := indptr_mono_le m.indptr hmono (i + 1) d (by omega) (by omega)
      omega

/-- `mpc`: if `w` solves the reduced system `B w = y`, the expanded vector satisfies the constraint
    `z_S = T z_M + g` and the ORIGINAL equations on every row of `U ∪ M`.  For an index listed twice
    the code accumulates (`np.add.at`) while `mpcExpand` reads the first position; under `hnd` the
    two agree. -/
theorem C05_mpc (n : Nat) (A : Nat → Nat → K) (b : Nat → K) (U M S : List Nat)
    (T : Nat → Nat → K) (g : Nat → K) (w : Nat → K)
    (hnd : (U ++ M ++ S).Nodup) (hcover : ∀ i, i < n ↔ i ∈ U ++ M ++ S)
    (hsol : ∀ p < (U ++ M).length,
      ((List.range (U ++ M).length).map (fun q => mpcMat A U M S T p q * w q)).sum = mpcRhs A b U M S g p) :
    (∀ s (hs : s < S.length), mpcExpand U M S T g w (S[s])
        = ((List.range M.length).map (fun j => T s j * mpcExpand U M S T g w (M.getD j 0))).sum + g s)
    ∧ (∀ r ∈ U ++ M, matVec n A (mpcExpand U M S T g w) r = b r) := by
  obtain ⟨hUM, hS, hd⟩ := List.nodup_append.1 hnd
  have hdisj : ∀ i, i ∈ U ++ M → i ∉ S := fun i hi hiS => hd i hi i hiS rfl
  constructor
  · intro s hs
    rw [mpcExpand_S U M S T g w hS hdisj s hs]
    congr 2
    apply List.map_congr_left
    intro j hj
    have hj' : j < M.length := List.mem_range.1 hj
    rw [← getD_append_right (l₁ := U) rfl M 0 j,
      mpcExpand_UM U M S T g w hUM (U.length + j) (by rw [List.length_append]; omega)]
  · intro r hr
    obtain ⟨p, hp, rfl⟩ := List.getElem_of_mem hr
    rw [← getD_eq_getElem (U ++ M) 0 hp]
    exact mpc_row n A b U M S T g w _
      (perm_append_range n _ _ hUM hS hdisj fun i => by rw [hcover i, List.mem_append])
      (mpcExpand_UM U M S T g w hUM)
      (fun s hs => by
        rw [getD_eq_getElem S 0 hs, mpcExpand_S U M S T g w hS hdisj s hs, sum_map_range])
      p (hsol p hp)

/-- `penalize`: a penalised row differs only in the diagonal and right-hand side -/
theorem C05_penalize_rows (A : Nat → Nat → K) (b x : Nat → K) (D : List Nat) (epsInv : K) (i j : Nat) :
    (i ∈ D → penalizeMat A D epsInv i j = (if i = j then epsInv else A i j)
              ∧ penalizeRhs b x D epsInv i = x i * epsInv)
    ∧ (i ∉ D → penalizeMat A D epsInv i j = A i j ∧ penalizeRhs b x D epsInv i = b i) := by
  rw [penalizeMat_apply, penalizeRhs_apply]
  exact ⟨fun hi => ⟨by simp only [hi, true_and], if_pos hi⟩,
    fun hi => ⟨if_neg (fun h => hi h.1), if_neg hi⟩⟩

/-- `penalize` likewise depends on `D` only as a set -/
theorem C05_penalize_set_only (A : Nat → Nat → K) (b x : Nat → K) (D D' : List Nat) (epsInv : K)
    (h : ∀ i, i ∈ D ↔ i ∈ D') :
    penalizeMat A D epsInv = penalizeMat A D' epsInv ∧ penalizeRhs b x D epsInv = penalizeRhs b x D' epsInv := by
  constructor
  · funext i j; simp only [penalizeMat_apply, h i]
  · funext i; simp only [penalizeRhs_apply, h i]

/-- with nothing constrained, all three routes leave the system as it is -/
theorem C05_empty_D (A : Nat → Nat → K) (b x : Nat → K) (diag epsInv : K) :
    enforceMat A [] diag = A ∧ enforceRhs b x [] = b
    ∧ penalizeMat A [] epsInv = A ∧ penalizeRhs b x [] epsInv = b := by
  refine ⟨?_, ?_, ?_, ?_⟩
  · funext i j; rw [enforceMat_apply, if_neg List.not_mem_nil]
  · funext i; rw [enforceRhs_apply, if_neg List.not_mem_nil]
  · funext i j; rw [penalizeMat_apply, if_neg (fun h => List.not_mem_nil h.1)]
  · funext i; rw [penalizeRhs_apply, if_neg List.not_mem_nil]

end Ring

section Field
variable {K : Type} [Field K]

/-- `penalize`: any solution of the penalised system agrees with the prescribed value up to
    `ε` times the off-diagonal coupling: `z_i − x_i = −ε · Σ_{j≠i} A_ij z_j` -/
theorem C05_penalize_error (n : Nat) (A : Nat → Nat → K) (b x z : Nat → K) (D : List Nat)
    (eps : K) (heps : eps ≠ 0) (i : Nat) (hi : i ∈ D) (hin : i < n)
    (hsol : matVec n (penalizeMat A D eps⁻¹) z i = penalizeRhs b x D eps⁻¹ i) :
    z i - x i = - eps * ∑ j ∈ (Finset.range n).erase i, A i j * z j := by
  rw [matVec_penalize_mem n A z D eps⁻¹ i hi hin, penalizeRhs_apply, if_pos hi] at hsol
  linear_combination eps * hsol + (x i - z i) * mul_inv_cancel₀ heps

end Field

/-- `hmono` of `C05_zero_rows_dense` is asked on the index range only: for ALL `i` only the zero
    `indptr` would satisfy it, since `getD` returns 0 past the end -/
example : ∀ i, i + 1 < [0, 2, 2, 5, 7].length →
    [0, 2, 2, 5, 7].getD i 0 ≤ [0, 2, 2, 5, 7].getD (i + 1) 0 := by
  intro i hi
  have : i < 4 := by simp only [List.length_cons, List.length_nil] at hi; omega
  match i, this with
  | 0, _ | 1, _ | 2, _ | 3, _ => decide
example : ¬ ∀ i, [0, 2, 2, 5, 7].getD i 0 ≤ [0, 2, 2, 5, 7].getD (i + 1) 0 :=
  fun h => absurd (h 4) (by decide)

/-- 4×4 system with an empty row, `D` given with a repetition -/
example : initBC 4 none (some [2, 0, 2]) = some ([1, 3], [0, 2]) := by decide
example : rowZeroIdx [0, 2, 2, 5, 7] [3, 0, 1] = [5, 6, 0, 1] := by decide

end Skv.C05
