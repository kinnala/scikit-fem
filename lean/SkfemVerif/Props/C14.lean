import SkfemVerif.Model.Finder
import SkfemVerif.Model.Assembly
import SkfemVerif.Lemmas.Assembly
import SkfemVerif.Lemmas.Finder
import Mathlib.Algebra.BigOperators.Group.Finset.Basic
import Mathlib.Algebra.BigOperators.Ring.Finset
import Mathlib.Algebra.Order.Field.Rat
import Mathlib.Tactic.Ring
import Mathlib.Tactic.Linarith
import Mathlib.Tactic.NormNum
/-
C14  Point location and point evaluation of discrete functions are exact.

Model: Model/Finder.lean.  Tie: correspondence ops `finder.decide`, `finder.bary`, `finder.line`,
`finder.split`, `probes.assemble`.

The KD-tree query is an arbitrary list `cand`: soundness holds whatever it returns; the statements
about the range of the answer and about raising assume `hc`, the candidates are cell numbers
(`finder (fun k _ => k == 5) 3 [5] [0] = some [5]` otherwise).  Exact rational arithmetic,
non-degenerate simplices, any slack `eps`.

Not proved (searched on the implementation only): the KD-tree, the Newton iteration of
`MappingIsoparametric.invF`, floating-point effects within the slack, and that the tetrahedra of
`to_meshtet` tile a hexahedron / prism (for convex quadrilaterals: `C14_quad_split_tiles`).
-/
namespace Skv.C14
open Skv.Find

section Decision
variable {P : Type}

/-- **soundness**: whatever the candidates are, an answer has one cell per query point and
    every returned cell passes the inside test for its point -/
theorem C14_finder_sound (inside : Nat → P → Bool) (nt : Nat) (cand : List Nat) (pts : List P)
    (r : List Nat) (h : finder inside nt cand pts = some r) :
    r.length = pts.length ∧
      ∀ i (hi : i < pts.length) (hr : i < r.length), inside r[i] pts[i] = true :=
  (finder2_getElem h).imp_right fun H i hi hr => (H i hi hr).elim And.right And.right

/-- the returned cells are cell numbers when the candidates are -/
theorem C14_finder_range (inside : Nat → P → Bool) (nt : Nat) (cand : List Nat) (pts : List P)
    (hc : ∀ k ∈ cand, k < nt) (r : List Nat) (h : finder inside nt cand pts = some r) :
    ∀ k ∈ r, k < nt := by
  obtain ⟨hlen, H⟩ := finder2_getElem h
  intro k hk
  obtain ⟨i, hi, rfl⟩ := List.getElem_of_mem hk
  exact (H i (hlen ▸ hi) hi).elim (fun h1 => hc _ h1.1) And.left

/-- **raises iff outside**: the finder raises iff some query point passes the inside test of no
    cell `< nt` — so never because the candidate list missed the right cell -/
theorem C14_finder_raises_iff (inside : Nat → P → Bool) (nt : Nat) (cand : List Nat)
    (pts : List P) (hc : ∀ k ∈ cand, k < nt) :
    finder inside nt cand pts = none ↔ ∃ x ∈ pts, ∀ k, k < nt → inside k x = false := by
  refine (finder2_eq_none inside inside nt cand pts).trans ⟨And.right, fun h => ⟨?_, h⟩⟩
  obtain ⟨x, hx, hno⟩ := h
  exact ⟨x, hx, fun k hk => hno k (hc k hk)⟩

/-- **completeness**: if every query point lies in some cell, the finder answers -/
theorem C14_finder_complete (inside : Nat → P → Bool) (nt : Nat) (cand : List Nat)
    (pts : List P) (hc : ∀ k ∈ cand, k < nt)
    (hall : ∀ x ∈ pts, ∃ k, k < nt ∧ inside k x = true) :
    ∃ r, finder inside nt cand pts = some r := by
  cases h : finder inside nt cand pts with
  | some r => exact ⟨r, rfl⟩
  | none =>
    obtain ⟨x, hx, hno⟩ := (C14_finder_raises_iff inside nt cand pts hc).1 h
    obtain ⟨k, hk, hin⟩ := hall x hx
    rw [hno k hk] at hin
    cases hin

/-- **any number, order and repetition of query points**: two query lists with the same set of
    points and the same `cand` both raise or neither does, and equal points get equal cells -/
theorem C14_finder_order_repetition (inside : Nat → P → Bool) (nt : Nat) (cand : List Nat)
    (pts pts' : List P) (hset : ∀ x, x ∈ pts' ↔ x ∈ pts) :
    (finder inside nt cand pts = none ↔ finder inside nt cand pts' = none) ∧
    ∀ r r', finder inside nt cand pts = some r → finder inside nt cand pts' = some r' →
      ∀ i j (hi : i < pts.length) (hj : j < pts'.length) (hri : i < r.length)
        (hrj : j < r'.length), pts[i] = pts'[j] → r[i] = r'[j] := by
  -- whether a pass answers depends on the set of points, what it answers on the point alone
  have hnone : ∀ ix, finderStage inside ix pts' = none ↔ finderStage inside ix pts = none :=
    fun ix => by simp only [finderStage_eq_none, hset]
  unfold finder
  simp only [finder2_eq_or, Option.or_eq_none_iff, Option.or_eq_some_iff, finderStage_eq_some,
    hset, hnone]
  refine ⟨trivial, fun r r' h h' i j hi hj hri hrj hij => ?_⟩
  rcases h with ⟨H, rfl⟩ | ⟨hn, _, rfl⟩ <;> rcases h' with ⟨H', rfl⟩ | ⟨hn', _, rfl⟩
  · simp only [List.getElem_map, hij]
  · cases ((finderStage_eq_some _ _ _ _).2 ⟨H, rfl⟩).symm.trans hn'
  · cases ((finderStage_eq_some _ _ _ _).2 ⟨H', rfl⟩).symm.trans hn
  · simp only [List.getElem_map, hij]

/-- the finder as it runs in floating point, where the inside matrices of the first pass
    (`inside1`, candidates) and of the second (`inside2`, all cells) come from two evaluations of
    `invF`: every returned cell passed one of the two tests for its point, and a raise means that
    some point passed the second test for no cell -/
theorem C14_finder2_sound (inside1 inside2 : Nat → P → Bool) (nt : Nat) (cand : List Nat)
    (pts : List P) :
    (∀ r, finder2 inside1 inside2 nt cand pts = some r →
      r.length = pts.length ∧ ∀ i (hi : i < pts.length) (hr : i < r.length),
        inside1 r[i] pts[i] = true ∨ inside2 r[i] pts[i] = true) ∧
    (finder2 inside1 inside2 nt cand pts = none →
      ∃ x ∈ pts, ∀ k, k < nt → inside2 k x = false) :=
  ⟨fun _ h => (finder2_getElem h).imp_right fun H i hi hr => (H i hi hr).imp And.right And.right,
    fun h => ((finder2_eq_none _ _ _ _ _).1 h).2⟩

/-- an answer of the split finder, entry by entry (`0 < nt` follows from there being an answer) -/
theorem finderSplit_getElem {insideSub : Nat → P → Bool} {nb nt : Nat} {cand : List Nat}
    {pts : List P} (hc : ∀ j ∈ cand, j < nb * nt) {r : List Nat}
    (h : finderSplit insideSub nb nt cand pts = some r) :
    r.length = pts.length ∧
      ∀ i (hi : i < pts.length) (hr : i < r.length),
        r[i] < nt ∧ ∃ b, b < nb ∧ insideSub (b * nt + r[i]) pts[i] = true := by
  obtain ⟨s, hs, rfl⟩ := Option.map_eq_some_iff.1 h
  obtain ⟨hlen, H⟩ := finder2_getElem hs
  refine ⟨by rw [List.length_map, hlen], fun i hi hr => ?_⟩
  rw [List.length_map] at hr
  obtain ⟨hlt, hin⟩ := (H i hi hr).elim (.imp_left (hc _)) id
  have hnt : 0 < nt := Nat.pos_of_lt_mul_left hlt
  rw [List.getElem_map]
  exact ⟨Nat.mod_lt _ hnt, s[i] / nt, Nat.div_lt_of_lt_mul (by rwa [Nat.mul_comm]),
    by rwa [Nat.div_add_mod']⟩

/-- **quadrilaterals, hexahedra, prisms**: the answer `j % nt` of the split finder is a cell
    number, and one of the `nb` sub-simplices `b * nt + (j % nt)` (those of that cell:
    `C14_split_modulo`) contains the point.  `hnt` is not needed. -/
theorem C14_finder_split_sound (insideSub : Nat → P → Bool) (nb nt : Nat) (cand : List Nat)
    (pts : List P) (hnt : 0 < nt) (hc : ∀ j ∈ cand, j < nb * nt) (r : List Nat)
    (h : finderSplit insideSub nb nt cand pts = some r) :
    r.length = pts.length ∧
      ∀ i (hi : i < pts.length) (hr : i < r.length),
        r[i] < nt ∧ ∃ b, b < nb ∧ insideSub (b * nt + r[i]) pts[i] = true :=
  finderSplit_getElem hc h

/-- the split finder raises iff some point lies in no sub-simplex of any cell -/
theorem C14_finder_split_raises_iff (insideSub : Nat → P → Bool) (nb nt : Nat) (cand : List Nat)
    (pts : List P) (hc : ∀ j ∈ cand, j < nb * nt) :
    finderSplit insideSub nb nt cand pts = none ↔
      ∃ x ∈ pts, ∀ b k, b < nb → k < nt → insideSub (b * nt + k) x = false := by
  unfold finderSplit
  rw [Option.map_eq_none_iff, C14_finder_raises_iff insideSub (nb * nt) cand pts hc]
  simp only [forall_lt_mul_iff]

/-- **end to end, any mesh**: if the inside test of cell `k` decides membership `In k`, an
    answer consists of cells that contain their points, and the finder raises iff a point is in
    no cell -/
theorem finder_mesh {inside : Nat → P → Bool} {nt : Nat} {In : ∀ k, k < nt → P → Prop}
    (key : ∀ k (hk : k < nt) x, inside k x = true ↔ In k hk x) {cand : List Nat}
    (hc : ∀ k ∈ cand, k < nt) (pts : List P) :
    (∀ r, finder inside nt cand pts = some r →
      r.length = pts.length ∧ ∀ i (hi : i < pts.length) (hr : i < r.length),
        ∃ hk : r[i] < nt, In r[i] hk pts[i]) ∧
    (finder inside nt cand pts = none ↔ ∃ x ∈ pts, ∀ k (hk : k < nt), ¬ In k hk x) := by
  constructor
  · intro r hr
    have hrange := C14_finder_range _ _ _ _ hc r hr
    refine (C14_finder_sound _ _ _ _ r hr).imp_right fun H i hi hri => ?_
    have hk := hrange _ (List.getElem_mem hri)
    exact ⟨hk, (key _ hk _).1 (H i hi hri)⟩
  · rw [C14_finder_raises_iff _ _ _ _ hc]
    refine exists_congr fun x => and_congr_right fun _ => forall₂_congr fun k hk => ?_
    rw [← key k hk x, Bool.not_eq_true]

/-- the same through a split into `nb` blocks of sub-simplices: cell `k` is the union of the
    sub-simplices `b * nt + k` -/
theorem finderSplit_mesh {insideSub : Nat → P → Bool} {nb nt : Nat} {In : ∀ k, k < nt → P → Prop}
    (key : ∀ k (hk : k < nt) x, (∃ b, b < nb ∧ insideSub (b * nt + k) x = true) ↔ In k hk x)
    {cand : List Nat} (hc : ∀ j ∈ cand, j < nb * nt) (pts : List P) :
    (∀ r, finderSplit insideSub nb nt cand pts = some r →
      r.length = pts.length ∧ ∀ i (hi : i < pts.length) (hr : i < r.length),
        ∃ hk : r[i] < nt, In r[i] hk pts[i]) ∧
    (finderSplit insideSub nb nt cand pts = none ↔
      ∃ x ∈ pts, ∀ k (hk : k < nt), ¬ In k hk x) := by
  constructor
  · intro r hr
    refine (finderSplit_getElem hc hr).imp_right fun H i hi hri => ?_
    obtain ⟨hk, hb⟩ := H i hi hri
    exact ⟨hk, (key _ hk _).1 hb⟩
  · rw [C14_finder_split_raises_iff _ _ _ _ _ hc]
    simp only [← key, not_exists, not_and, Bool.not_eq_true]
    exact exists_congr fun x => and_congr_right fun _ =>
      ⟨fun h k hk b hb => h b k hb hk, fun h b k hb hk => h k hk b hb⟩

/-- the candidate lists miss the right cell: the second pass finds it -/
example :
    finder (fun k (x : Nat) => k == x) 3 [2, 2, 0] [1, 0, 1, 2] = some [1, 0, 1, 2]
    ∧ finder (fun k (x : Nat) => k == x) 3 [2, 0] [0, 2, 2] = some [0, 2, 2]
    ∧ finder (fun k (x : Nat) => k == x) 3 [2, 0] [0, 7] = none
    ∧ finderSplit (fun j (x : Nat) => j == x) 2 3 [4] [4, 1, 5] = some [1, 1, 2] := by
  decide

end Decision

/-- the segment inflated by the slack (`eps = 0`: the closed segment) -/
def InHull1 (eps v0 v1 x : Rat) : Prop :=
  ∃ l0 l1 : Rat, -eps ≤ l0 ∧ -eps ≤ l1 ∧ l0 + l1 = 1 ∧ x = l0 * v0 + l1 * v1

/-- the triangle inflated by the slack: barycentric coordinates `≥ -eps` (`eps = 0`: the closed
    triangle) -/
def InHull2 (eps : Rat) (v0 v1 v2 x : P2) : Prop :=
  ∃ l0 l1 l2 : Rat, -eps ≤ l0 ∧ -eps ≤ l1 ∧ -eps ≤ l2 ∧ l0 + l1 + l2 = 1 ∧
    x.1 = l0 * v0.1 + l1 * v1.1 + l2 * v2.1 ∧ x.2 = l0 * v0.2 + l1 * v1.2 + l2 * v2.2

def InHull3 (eps : Rat) (v0 v1 v2 v3 x : P3) : Prop :=
  ∃ l0 l1 l2 l3 : Rat, -eps ≤ l0 ∧ -eps ≤ l1 ∧ -eps ≤ l2 ∧ -eps ≤ l3 ∧ l0 + l1 + l2 + l3 = 1 ∧
    x.x = l0 * v0.x + l1 * v1.x + l2 * v2.x + l3 * v3.x ∧
    x.y = l0 * v0.y + l1 * v1.y + l2 * v2.y + l3 * v3.y ∧
    x.z = l0 * v0.z + l1 * v1.z + l2 * v2.z + l3 * v3.z

/-- 1-D: the test `X ≥ -eps ∧ 1 - X ≥ -eps` on `X = invF(x)` is membership in the inflated cell -/
theorem C14_inside_line_spec (eps v0 v1 x : Rat) (h : v0 ≠ v1) :
    insideLine eps v0 v1 x = true ↔ InHull1 eps v0 v1 x := by
  unfold insideLine InHull1
  simp only [Bool.and_eq_true, decide_eq_true_eq]
  constructor
  · rintro ⟨h1, h2⟩
    exact ⟨_, _, h2, h1, by ring, (invF1_eq_iff h (by ring)).1 rfl⟩
  · rintro ⟨l0, l1, h0, h1, hs, e⟩
    rw [(invF1_eq_iff h hs).2 e]
    exact ⟨h1, by linarith⟩

/-- **triangles**: for a non-degenerate triangle (either orientation) the finder's test on the
    reference coordinates of `MappingAffine.invF` holds iff all barycentric coordinates of `x`
    are `≥ -eps` -/
theorem C14_inside_tri_spec (eps : Rat) (v0 v1 v2 x : P2) (h : det2 v0 v1 v2 ≠ 0) :
    insideTri eps v0 v1 v2 x = true ↔ InHull2 eps v0 v1 v2 x := by
  unfold insideTri InHull2
  simp only [Bool.and_eq_true, decide_eq_true_eq]
  constructor
  · rintro ⟨⟨h1, h2⟩, h3⟩
    exact ⟨_, _, _, h3, h1, h2, by ring, (invF2_eq_iff h (by ring)).1 rfl⟩
  · rintro ⟨l0, l1, l2, h0, h1, h2, hs, e⟩
    rw [(invF2_eq_iff (X := (l1, l2)) h hs).2 e]
    exact ⟨⟨h1, h2⟩, by linarith⟩

/-- **tetrahedra**: the same -/
theorem C14_inside_tet_spec (eps : Rat) (v0 v1 v2 v3 x : P3) (h : det3 v0 v1 v2 v3 ≠ 0) :
    insideTet eps v0 v1 v2 v3 x = true ↔ InHull3 eps v0 v1 v2 v3 x := by
  unfold insideTet InHull3
  simp only [Bool.and_eq_true, decide_eq_true_eq]
  constructor
  · rintro ⟨⟨⟨h1, h2⟩, h3⟩, h4⟩
    exact ⟨_, _, _, _, h4, h1, h2, h3, by ring, (invF3_eq_iff h (by ring)).1 rfl⟩
  · rintro ⟨l0, l1, l2, l3, h0, h1, h2, h3, hs, e⟩
    rw [(invF3_eq_iff (X := (l1, l2, l3)) h hs).2 e]
    exact ⟨⟨⟨h1, h2⟩, h3⟩, by linarith⟩

/-- a larger slack only accepts more points.  `h` is not needed. -/
theorem C14_inside_tri_mono (eps eps' : Rat) (v0 v1 v2 x : P2) (h : det2 v0 v1 v2 ≠ 0)
    (he : eps ≤ eps') (hin : insideTri eps v0 v1 v2 x = true) :
    insideTri eps' v0 v1 v2 x = true := by
  simp only [insideTri, Bool.and_eq_true, decide_eq_true_eq] at hin ⊢
  have hle : -eps' ≤ -eps := neg_le_neg he
  exact ⟨⟨hle.trans hin.1.1, hle.trans hin.1.2⟩, hle.trans hin.2⟩

/-- a clockwise triangle; a point outside by less / more than the slack -/
example :
    insideTri 0 (0, 0) (0, 2) (2, 0) (0, 2) = true ∧ insideTri 0 (0, 0) (0, 2) (2, 0) (1, 1) = true
    ∧ insideTri 0 (0, 0) (0, 2) (2, 0) (1/2, 1/2) = true
    ∧ insideTri (1/100) (0, 0) (0, 2) (2, 0) (-1/100, 1) = true
    ∧ insideTri (1/100) (0, 0) (0, 2) (2, 0) (-1/10, 1) = false
    ∧ insideTet 0 ⟨0, 0, 0⟩ ⟨1, 0, 0⟩ ⟨0, 1, 0⟩ ⟨0, 0, 1⟩ ⟨1/4, 1/4, 1/2⟩ = true
    ∧ insideTet 0 ⟨0, 0, 0⟩ ⟨1, 0, 0⟩ ⟨0, 1, 0⟩ ⟨0, 0, 1⟩ ⟨1/2, 1/2, 1/2⟩ = false := by
  decide +kernel

/-! #### the two triangles of `to_meshtri` tile a convex quadrilateral -/

/-- the closed quadrilateral with vertices in cyclic order and orientation sign `s`
    (`1`: counter-clockwise, `-1`: clockwise) as the intersection of its four edge half-planes -/
def InQuad (s : Rat) (p0 p1 p2 p3 x : P2) : Prop :=
  0 ≤ s * orient p0 p1 x ∧ 0 ≤ s * orient p1 p2 x ∧ 0 ≤ s * orient p2 p3 x ∧ 0 ≤ s * orient p3 p0 x

/-- strict convexity: every vertex is strictly on the inner side of the two edges it is not on -/
def ConvexQuad (s : Rat) (p0 p1 p2 p3 : P2) : Prop :=
  0 < s * orient p0 p1 p2 ∧ 0 < s * orient p1 p2 p3 ∧ 0 < s * orient p2 p3 p0 ∧ 0 < s * orient p3 p0 p1

/-- a point of a triangle whose vertices lie on the inner side of a line lies there too -/
theorem C14_halfplane_of_hull (s : Rat) (p q a b c x : P2) (hx : InHull2 0 a b c x)
    (ha : 0 ≤ s * orient p q a) (hb : 0 ≤ s * orient p q b) (hc : 0 ≤ s * orient p q c) :
    0 ≤ s * orient p q x := by
  obtain ⟨l0, l1, l2, h0, h1, h2, hs, e1, e2⟩ := hx
  rw [neg_zero] at h0 h1 h2
  rw [orient_bary hs e1 e2, mul_add, mul_add, mul_left_comm, mul_left_comm s l1, mul_left_comm s l2]
  exact add_nonneg (add_nonneg (mul_nonneg h0 ha) (mul_nonneg h1 hb)) (mul_nonneg h2 hc)

/-- a point on the inner side of the three edges of a triangle is in it, for any factor `s` that
    makes the orientation of the triangle positive -/
theorem hull_of_halfplanes {s : Rat} {a b c x : P2} (hD : 0 < s * orient a b c)
    (h1 : 0 ≤ s * orient a b x) (h2 : 0 ≤ s * orient b c x) (h3 : 0 ≤ s * orient c a x) :
    InHull2 0 a b c x :=
  -- the barycentric coordinates are the ratios `(s * orient · · x) / (s * orient a b c)`
  ⟨_, _, _, neg_zero.trans_le (div_nonneg h2 hD.le), neg_zero.trans_le (div_nonneg h3 hD.le),
    neg_zero.trans_le (div_nonneg h1 hD.le),
    by rw [← add_div, ← add_div, div_eq_one_iff_eq hD.ne']; unfold orient; ring,
    (cramer_col3 hD.ne' (by unfold orient; ring)).symm,
    (cramer_col3 hD.ne' (by unfold orient; ring)).symm⟩

/-- the converse of `C14_halfplane_of_hull` for a triangle of orientation `s`.  `hs` is not needed
    (`hull_of_halfplanes`). -/
theorem C14_hull_of_halfplanes (s : Rat) (hs : s = 1 ∨ s = -1) (a b c x : P2)
    (hD : 0 < s * orient a b c) (h1 : 0 ≤ s * orient a b x) (h2 : 0 ≤ s * orient b c x)
    (h3 : 0 ≤ s * orient c a x) : InHull2 0 a b c x :=
  hull_of_halfplanes hD h1 h2 h3

theorem inQuad_of_hull {s : Rat} {p0 p1 p2 p3 a b c x : P2} (hx : InHull2 0 a b c x)
    (ha : InQuad s p0 p1 p2 p3 a) (hb : InQuad s p0 p1 p2 p3 b) (hc : InQuad s p0 p1 p2 p3 c) :
    InQuad s p0 p1 p2 p3 x :=
  have hp {p q : P2} := C14_halfplane_of_hull s p q a b c x hx
  ⟨hp ha.1 hb.1 hc.1, hp ha.2.1 hb.2.1 hc.2.1, hp ha.2.2.1 hb.2.2.1 hc.2.2.1,
    hp ha.2.2.2 hb.2.2.2 hc.2.2.2⟩

/-- a strictly convex quadrilateral contains its vertices: each lies on two edges and strictly
    inside the other two -/
theorem inQuad_vertices {s : Rat} {p0 p1 p2 p3 : P2} (h : ConvexQuad s p0 p1 p2 p3) :
    InQuad s p0 p1 p2 p3 p0 ∧ InQuad s p0 p1 p2 p3 p1 ∧ InQuad s p0 p1 p2 p3 p2 ∧
      InQuad s p0 p1 p2 p3 p3 := by
  obtain ⟨c0, c1, c2, c3⟩ := h
  simp only [InQuad, orient_self_left, orient_self_right, mul_zero, le_refl, true_and, and_true]
  exact ⟨⟨orient_cyc p0 p1 p2 ▸ c0.le, c2.le⟩, ⟨orient_cyc p1 p2 p3 ▸ c1.le, c3.le⟩,
    ⟨c0.le, orient_cyc p2 p3 p0 ▸ c2.le⟩, ⟨orient_cyc p3 p0 p1 ▸ c3.le, c1.le⟩⟩

/-- **`MeshQuad1.element_finder`**: for a strictly convex quadrilateral (either orientation) a
    point passes the exact inside test of one of the two triangles `(0,1,3)`, `(1,2,3)` of
    `to_meshtri` iff it lies in the closed quadrilateral.  `hs` is not needed. -/
theorem C14_quad_split_tiles (s : Rat) (hs : s = 1 ∨ s = -1) (p0 p1 p2 p3 x : P2)
    (hconv : ConvexQuad s p0 p1 p2 p3) :
    (insideTri 0 p0 p1 p3 x = true ∨ insideTri 0 p1 p2 p3 x = true) ↔ InQuad s p0 p1 p2 p3 x := by
  obtain ⟨v0, v1, v2, v3⟩ := inQuad_vertices hconv
  obtain ⟨c0, c1, c2, c3⟩ := hconv
  have dA : 0 < s * orient p0 p1 p3 := by rw [orient_cyc p3 p0 p1]; exact c3
  have hA : det2 p0 p1 p3 ≠ 0 := det2_eq_orient _ _ _ ▸ right_ne_zero_of_mul dA.ne'
  have hB : det2 p1 p2 p3 ≠ 0 := det2_eq_orient _ _ _ ▸ right_ne_zero_of_mul c1.ne'
  rw [C14_inside_tri_spec 0 _ _ _ _ hA, C14_inside_tri_spec 0 _ _ _ _ hB]
  constructor
  · rintro (hin | hin)
    · exact inQuad_of_hull hin v0 v1 v3
    · exact inQuad_of_hull hin v1 v2 v3
  · rintro ⟨q0, q1, q2, q3⟩
    -- which side of the diagonal p1 → p3 ?
    rcases le_total 0 (s * orient p1 p3 x) with hd | hd
    · exact Or.inl (hull_of_halfplanes dA q0 hd q3)
    · refine Or.inr (hull_of_halfplanes c1 q1 q2 ?_)
      rw [orient_cyc x p3 p1, orient_swap x p1 p3, ← orient_cyc x p1 p3]
      linarith

example : ConvexQuad 1 (0, 0) (2, 0) (3, 2) (0, 1) ∧ ConvexQuad (-1) (0, 0) (0, 1) (3, 2) (2, 0) := by
  unfold ConvexQuad orient
  norm_num

/-- a 1-D mesh; nothing is assumed about the numbering of the vertices, the order or orientation
    of the cells, or gaps between them -/
structure ValidLineMesh (p : Nat → Rat) (nv : Nat) (t : List (Nat × Nat)) : Prop where
  inj : ∀ u v, u < nv → v < nv → p u = p v → u = v
  verts : ∀ c ∈ t, c.1 < nv ∧ c.2 < nv
  nondeg : ∀ c ∈ t, c.1 ≠ c.2

/-- no vertex of the mesh lies strictly inside a cell.  The code needs it too: for `p = [0, 1, 2]`,
    `t = [(0, 2)]` the pass looks for a cell whose larger vertex is 1, and `x = 0.5` raises. -/
def NoInnerVertex (p : Nat → Rat) (nv : Nat) (t : List (Nat × Nat)) : Prop :=
  ∀ c ∈ t, ∀ u, u < nv → ¬ (p (minVertex p c) < p u ∧ p u < p (maxVertex p c))

def InCell (p : Nat → Rat) (c : Nat × Nat) (x : Rat) : Prop :=
  p (minVertex p c) ≤ x ∧ x ≤ p (maxVertex p c)

theorem line_minmax {p : Nat → Rat} {nv : Nat} {t : List (Nat × Nat)} (hv : ValidLineMesh p nv t)
    (c : Nat × Nat) (hc : c ∈ t) :
    minVertex p c < nv ∧ maxVertex p c < nv ∧ p (minVertex p c) < p (maxVertex p c) := by
  obtain ⟨h1, h2⟩ := hv.verts c hc
  have hne : p c.1 ≠ p c.2 := fun h => hv.nondeg c hc (hv.inj _ _ h1 h2 h)
  unfold minVertex maxVertex
  by_cases h : p c.2 ≤ p c.1
  · simp only [h, if_true]
    exact ⟨h2, h1, lt_of_le_of_ne h (Ne.symm hne)⟩
  · simp only [h, if_false]
    exact ⟨h1, h2, not_le.1 h⟩

theorem mem_cellsWithMax (p : Nat → Rat) (t : List (Nat × Nat)) (v : Option Nat) (k : Nat) :
    k ∈ cellsWithMax p t v ↔ ∃ hk : k < t.length, v = some (maxVertex p t[k]) := by
  unfold cellsWithMax
  cases v with
  | none => simp
  | some w =>
    simp only [List.mem_filter, List.mem_range, beq_iff_eq, Option.some.injEq, eq_comm (a := w)]
    exact ⟨fun ⟨hk, h⟩ => ⟨hk, getD_eq_getElem t _ hk ▸ h⟩,
      fun ⟨hk, h⟩ => ⟨hk, (getD_eq_getElem t _ hk).symm ▸ h⟩⟩

/-- one pass of the 1-D finder with a predicate `q` that switches off along increasing
    coordinates (`right=False`: `q = (· ≤ x)`, `right=True`: `q = (· < x)`) finds cells whose
    smaller vertex has `q` and whose larger vertex does not -/
theorem C14_line_pass_sound {p : Nat → Rat} {nv : Nat} {t : List (Nat × Nat)}
    (hv : ValidLineMesh p nv t) (q : Rat → Bool) (hq : ∀ a b, a ≤ b → q b = true → q a = true)
    (k : Nat)
    (hk : k ∈ cellsWithMax p t ((argsortKey p nv)[((argsortKey p nv).map p).countP q]?)) :
    ∃ hk : k < t.length, q (p (minVertex p t[k])) = true ∧ q (p (maxVertex p t[k])) = false := by
  obtain ⟨hk, hv'⟩ := (mem_cellsWithMax _ _ _ _).1 hk
  have H := countP_vertex p nv q hq
  rw [hv'] at H
  obtain ⟨_, hqv, hminimal⟩ := H
  obtain ⟨hmin, _, hlt⟩ := line_minmax hv t[k] (List.getElem_mem hk)
  refine ⟨hk, ?_, hqv⟩
  by_contra hcon
  exact absurd hlt (not_lt.2 (hminimal _ hmin (Bool.eq_false_iff.2 hcon)))

/-- … and, when no vertex lies strictly inside a cell, all of them -/
theorem C14_line_pass_complete {p : Nat → Rat} {nv : Nat} {t : List (Nat × Nat)}
    (hv : ValidLineMesh p nv t) (hno : NoInnerVertex p nv t) (q : Rat → Bool)
    (hq : ∀ a b, a ≤ b → q b = true → q a = true) (k : Nat) (hk : k < t.length)
    (h1 : q (p (minVertex p t[k])) = true) (h2 : q (p (maxVertex p t[k])) = false) :
    k ∈ cellsWithMax p t ((argsortKey p nv)[((argsortKey p nv).map p).countP q]?) := by
  obtain ⟨_, hmax, _⟩ := line_minmax hv t[k] (List.getElem_mem hk)
  have H := countP_vertex p nv q hq
  split at H
  · rename_i v hq'
    obtain ⟨hvn, hqv, hminimal⟩ := H
    refine (mem_cellsWithMax _ _ _ _).2 ⟨hk, hq'.trans (congrArg some ?_)⟩
    have hlo : p (minVertex p t[k]) < p v := by
      by_contra hcon
      rw [hq _ _ (not_lt.1 hcon) h1] at hqv
      cases hqv
    rcases lt_or_eq_of_le (hminimal _ hmax h2) with hl | he
    · exact absurd ⟨hlo, hl⟩ (hno t[k] (List.getElem_mem hk) v hvn)
    · exact hv.inj _ _ hvn hmax he
  · rw [H _ hmax] at h2
    cases h2

theorem le_switches_off (x a b : Rat) (hab : a ≤ b) (h : decide (b ≤ x) = true) :
    decide (a ≤ x) = true :=
  decide_eq_true (le_trans hab (of_decide_eq_true h))

theorem lt_switches_off (x a b : Rat) (hab : a ≤ b) (h : decide (b < x) = true) :
    decide (a < x) = true :=
  decide_eq_true (lt_of_le_of_lt hab (of_decide_eq_true h))

/-- **soundness of the 1-D finder**: a returned cell contains the point (closed cell) -/
theorem C14_line_locate_sound (p : Nat → Rat) (nv : Nat) (t : List (Nat × Nat))
    (hv : ValidLineMesh p nv t) (x : Rat) (k : Nat) (h : lineLocate p nv t x = some k) :
    ∃ hk : k < t.length, InCell p t[k] x := by
  unfold lineLocate at h
  simp only at h
  split at h
  · rename_i k' hl
    obtain rfl := Option.some.inj h
    obtain ⟨hk, h1, h2⟩ := C14_line_pass_sound hv _ (le_switches_off x) _ (List.mem_of_getLast? hl)
    exact ⟨hk, of_decide_eq_true h1, le_of_lt (not_le.1 (of_decide_eq_false h2))⟩
  · obtain ⟨hk, h1, h2⟩ := C14_line_pass_sound hv _ (lt_switches_off x) _ (List.mem_of_getLast? h)
    exact ⟨hk, le_of_lt (of_decide_eq_true h1), not_lt.1 (of_decide_eq_false h2)⟩

/-- **completeness of the 1-D finder**: every point of a cell — the right end points of the mesh
    and of each of its connected components included — is located -/
theorem C14_line_locate_complete (p : Nat → Rat) (nv : Nat) (t : List (Nat × Nat))
    (hv : ValidLineMesh p nv t) (hno : NoInnerVertex p nv t) (x : Rat) (k : Nat)
    (hk : k < t.length) (hin : InCell p t[k] x) : ∃ k', lineLocate p nv t x = some k' := by
  obtain ⟨_, _, hlt⟩ := line_minmax hv t[k] (List.getElem_mem hk)
  obtain ⟨hlo, hhi⟩ := hin
  have some_of_mem : ∀ {l : List Nat}, k ∈ l → ∃ b, l.getLast? = some b := fun hl =>
    Option.isSome_iff_exists.1 (by
      rw [List.getLast?_isSome]
      exact List.ne_nil_of_mem hl)
  unfold lineLocate
  simp only
  rcases lt_or_eq_of_le hhi with hlt' | heq
  · -- x < right end: the pass `right=False` finds the cell
    obtain ⟨b, hb⟩ := some_of_mem (C14_line_pass_complete hv hno _ (le_switches_off x) k hk
      (decide_eq_true hlo) (decide_eq_false (not_le.2 hlt')))
    exact ⟨b, by rw [digitize, hb]⟩
  · -- x = right end: the pass `right=True` finds it unless `right=False` found another cell
    obtain ⟨b, hb⟩ := some_of_mem (C14_line_pass_complete hv hno _ (lt_switches_off x) k hk
      (decide_eq_true (heq ▸ hlt)) (decide_eq_false (heq ▸ lt_irrefl _)))
    split
    · exact ⟨_, rfl⟩
    · exact ⟨b, by rw [digitizeRight, hb]⟩

/-- the 1-D finder treats every query point on its own (so any number, order, repetition) -/
theorem C14_line_finder_pointwise (p : Nat → Rat) (nv : Nat) (t : List (Nat × Nat)) (xs : List Rat)
    (r : List Nat) (h : lineFinder p nv t xs = some r) :
    r.length = xs.length ∧ ∀ i (hi : i < xs.length) (hr : i < r.length),
      lineLocate p nv t xs[i] = some r[i] := by
  unfold lineFinder at h
  simp only at h
  split at h
  · rename_i hall
    obtain rfl := Option.some.inj h
    refine ⟨by rw [List.length_map, List.length_map], fun i hi _ => ?_⟩
    obtain ⟨k, hk⟩ := Option.isSome_iff_exists.1
      (List.all_eq_true.1 hall _ (List.mem_map.2 ⟨_, List.getElem_mem hi, rfl⟩))
    rw [List.getElem_map, List.getElem_map, hk]
    rfl
  · cases h

/-- **the 1-D finder answers with containing cells**, one per query point -/
theorem C14_line_finder_sound (p : Nat → Rat) (nv : Nat) (t : List (Nat × Nat))
    (hv : ValidLineMesh p nv t) (xs : List Rat) (r : List Nat)
    (h : lineFinder p nv t xs = some r) :
    r.length = xs.length ∧ ∀ i (hi : i < xs.length) (hr : i < r.length),
      ∃ hk : r[i] < t.length, InCell p t[r[i]] xs[i] := by
  obtain ⟨hlen, hloc⟩ := C14_line_finder_pointwise p nv t xs r h
  exact ⟨hlen, fun i hi hr => C14_line_locate_sound p nv t hv xs[i] r[i] (hloc i hi hr)⟩

/-- **the 1-D finder raises iff some query point lies in no cell** -/
theorem C14_line_finder_raises_iff (p : Nat → Rat) (nv : Nat) (t : List (Nat × Nat))
    (hv : ValidLineMesh p nv t) (hno : NoInnerVertex p nv t) (xs : List Rat) :
    lineFinder p nv t xs = none ↔ ∃ x ∈ xs, ∀ k (hk : k < t.length), ¬ InCell p t[k] x := by
  rw [lineFinder_eq_none]
  refine exists_congr fun x => and_congr_right fun _ => ⟨fun hn k hk hin => ?_, fun hno => ?_⟩
  · obtain ⟨k', hk'⟩ := C14_line_locate_complete p nv t hv hno x k hk hin
    rw [hn] at hk'
    cases hk'
  · cases h : lineLocate p nv t x with
    | none => rfl
    | some k =>
      obtain ⟨hk, hc⟩ := C14_line_locate_sound p nv t hv x k h
      exact absurd hc (hno k hk)

/-- the mesh `[0,1] ∪ [2,3]` (a gap, i.e. a non-convex domain) -/
def gapMesh : Nat → Rat := fun v => (v : Rat)

/-- the finder of the pinned tree raises for the right end point `x = 1` of the first component,
    a vertex of cell 0; the repaired finder returns cell 0 -/
theorem C14_line_finder_old_counterexample :
    lineFinderOld gapMesh 4 [(0, 1), (2, 3)] [1] = none
    ∧ lineFinder gapMesh 4 [(0, 1), (2, 3)] [1] = some [0]
    ∧ InCell gapMesh (0, 1) 1 := by
  refine ⟨by decide +kernel, by decide +kernel, ?_⟩
  unfold InCell minVertex maxVertex gapMesh
  norm_num

/-- the last mesh is numbered from right to left and has a reversed cell -/
example :
    lineFinder gapMesh 4 [(0, 1), (2, 3)] [3, 0, 1, 5/2, 1/2, 2] = some [1, 0, 0, 1, 0, 1]
    ∧ lineFinder gapMesh 4 [(0, 1), (2, 3)] [3/2] = none
    ∧ lineFinder gapMesh 4 [(0, 1), (2, 3)] [4] = none
    ∧ lineFinder gapMesh 4 [(0, 1), (2, 3)] [-1] = none
    ∧ lineFinder (fun v => ((3 - v : Int) : Rat)) 4 [(1, 0), (2, 3)] [3, 5/2, 0, 1/2] = some [0, 0, 1, 1] := by
  decide +kernel

example : ValidLineMesh gapMesh 4 [(0, 1), (2, 3)] ∧ NoInnerVertex gapMesh 4 [(0, 1), (2, 3)] := by
  refine ⟨⟨?_, ?_, ?_⟩, ?_⟩
  · intro u v _ _ h
    unfold gapMesh at h
    exact_mod_cast h
  · decide
  · decide
  · unfold NoInnerVertex
    decide +kernel

/-- `to_meshtri()` / `to_meshtet()` stack one block of `nt` sub-simplices per template: column
    `j` of the split connectivity is the local vertices `tmpl[j / nt]` of cell `j % nt` — so
    `finder(...) % nt` is the parent cell of the sub-simplex found -/
theorem C14_split_modulo (tmpl : List (List Nat)) (nt : Nat) (t : Nat → Nat → Nat) (j : Nat)
    (hj : j < tmpl.length * nt) :
    ∃ hb : j / nt < tmpl.length,
      (splitCells tmpl nt t)[j]? = some ((tmpl[j / nt]).map (fun i => t (j % nt) i)) := by
  have hnt : 0 < nt := Nat.pos_of_lt_mul_left hj
  have hb : j / nt < tmpl.length := Nat.div_lt_of_lt_mul (by rwa [Nat.mul_comm] at hj)
  refine ⟨hb, ?_⟩
  unfold splitCells
  conv_lhs => rw [← Nat.div_add_mod' j nt]
  rw [getElem?_flatMap_uniform tmpl nt _ (fun tm _ => by simp) (j / nt) (j % nt) hb
    (Nat.mod_lt _ hnt)]
  simp [Nat.mod_lt _ hnt]

theorem C14_split_count (tmpl : List (List Nat)) (nt : Nat) (t : Nat → Nat → Nat) :
    (splitCells tmpl nt t).length = tmpl.length * nt :=
  length_flatMap_uniform tmpl nt _ (fun tm _ => by simp)

/-- every vertex of sub-simplex `j` is a vertex of cell `j % nt` -/
theorem C14_split_vertices (tmpl : List (List Nat)) (nt : Nat) (t : Nat → Nat → Nat) (j : Nat)
    (hj : j < tmpl.length * nt) (sub : List Nat) (hs : (splitCells tmpl nt t)[j]? = some sub) :
    ∀ v ∈ sub, ∃ i, v = t (j % nt) i := by
  obtain ⟨_, h⟩ := C14_split_modulo tmpl nt t j hj
  cases h.symm.trans hs
  intro v hv
  obtain ⟨i, _, rfl⟩ := List.mem_map.1 hv
  exact ⟨i, rfl⟩

example : splitCells quadToTri 2 (fun k i => 10 * k + i)
      = [[0, 1, 3], [10, 11, 13], [1, 2, 3], [11, 12, 13]]
    ∧ (splitCells hexToTet 2 (fun k i => 10 * k + i))[9]? = some [13, 14, 15, 17] := by decide

section Probes
variable {K : Type} [CommRing K]

omit [CommRing K] in
/-- number of stored entries: one per (local function, component, point) -/
theorem C14_probes_triplet_count (Nbfun comp : Nat) (cells : List Nat) (dofs : Nat → Nat → Nat)
    (phi : Nat → Nat → Nat → K) :
    (probeTriplets Nbfun comp cells dofs phi).length = Nbfun * (comp * cells.length) := by
  rw [probeTriplets_structured, length_flatMap_flatMap_map_range, Nat.mul_assoc]

omit [CommRing K] in
/-- the `tile` / `flatten` / fancy-indexing arithmetic of `probes`: the triplet at flat position
    `k * (comp * npts) + c * npts + p` is
    `(row c * npts + p, column element_dofs[k, cells[p]], value phi_k^c(x_p))` -/
theorem C14_probes_triplet_at (Nbfun comp : Nat) (cells : List Nat) (dofs : Nat → Nat → Nat)
    (phi : Nat → Nat → Nat → K) (k c p : Nat) (hk : k < Nbfun) (hc : c < comp)
    (hp : p < cells.length) :
    (probeTriplets Nbfun comp cells dofs phi)[k * (comp * cells.length) + (c * cells.length + p)]?
      = some (c * cells.length + p, dofs k (cells.getD p 0), phi k c p) := by
  have e : k * (comp * cells.length) + (c * cells.length + p)
      = cells.length * (comp * k + c) + p := by ring
  rw [probeTriplets_structured, e, getElem?_flatMap_flatMap_map_range _ _ _ _ k c p hk hc hp]

/-- **`(probes(x) @ y)[c * npts + p] = Σ_k y[element_dofs[k, cell_p]] · φ_k^c(x_p)`** for scalar
    (`comp = 1`), vector and tensor valued bases; `cells` may list any cells in any order with
    repetitions, the DOF table may contain repeated DOFs (COO duplicates are summed) -/
theorem C14_probes_bookkeeping (Nbfun comp : Nat) (cells : List Nat) (dofs : Nat → Nat → Nat)
    (phi : Nat → Nat → Nat → K) (y : Nat → K) (c p : Nat) (hc : c < comp)
    (hp : p < cells.length) :
    cooDot (probeTriplets Nbfun comp cells dofs phi) y (c * cells.length + p)
      = ∑ k ∈ Finset.range Nbfun, y (dofs k (cells.getD p 0)) * phi k c p := by
  rw [cooDot_eq_sum_ite, probeTriplets_structured, sum_map_flatMap_flatMap_map_range]
  refine Finset.sum_congr rfl (fun k _ => ?_)
  -- of the triplets of function `k` only the one of component `c`, point `p` is in this row
  rw [Finset.sum_eq_single_of_mem c (Finset.mem_range.2 hc),
    Finset.sum_eq_single_of_mem p (Finset.mem_range.2 hp)]
  · rw [if_pos rfl, mul_comm]
  · intro p' _ hne
    rw [if_neg fun h => hne (Nat.add_left_cancel h)]
  · intro c' _ hne
    refine Finset.sum_eq_zero fun p' hp' => ?_
    rw [if_neg fun h => hne (mul_add_inj hp (Finset.mem_range.1 hp') h).1]

omit [CommRing K] in
/-- the matrix has the declared shape `(comp * npts, N)` when the DOF table stays below `N` -/
theorem C14_probes_shape (Nbfun comp N : Nat) (cells : List Nat) (dofs : Nat → Nat → Nat)
    (phi : Nat → Nat → Nat → K) (hd : ∀ k cell, dofs k cell < N) :
    ∀ t ∈ probeTriplets Nbfun comp cells dofs phi, t.1 < comp * cells.length ∧ t.2.1 < N := by
  intro t ht
  rw [probeTriplets_structured] at ht
  simp only [List.mem_flatMap, List.mem_map, List.mem_range] at ht
  obtain ⟨k, _, c, hc, p, hp, rfl⟩ := ht
  exact ⟨mul_add_lt_mul hp hc, hd _ _⟩

/-- the dense matrix (duplicates summed, `toarray()`) acts like the triplets:
    `Σ_d A[r, d] y[d] = cooDot` -/
theorem C14_dense_action (T : List (Nat × Nat × K)) (N : Nat) (hT : ∀ t ∈ T, t.2.1 < N)
    (y : Nat → K) (r : Nat) :
    ∑ d ∈ Finset.range N, denseEntry T r d * y d = cooDot T y r :=
  (cooDot_eq_dense T N hT y r).symm

/-- **`interpolator` for tensor valued bases**: with base tensor order `(d1, d2)` the output is
    reshaped to `(d1, d2, npts)`; its entry `[i, j, p]`, flat row `(i * d2 + j) * npts + p`, is
    component `i * d2 + j` of the located cell's local expansion at `x_p` -/
theorem C14_interpolator_reshape (Nbfun d1 d2 : Nat) (cells : List Nat) (dofs : Nat → Nat → Nat)
    (phi : Nat → Nat → Nat → K) (y : Nat → K) (i j p : Nat) (hi : i < d1) (hj : j < d2)
    (hp : p < cells.length) :
    cooDot (probeTriplets Nbfun (d1 * d2) cells dofs phi) y (tensorRow d2 cells.length i j p)
      = ∑ k ∈ Finset.range Nbfun, y (dofs k (cells.getD p 0)) * phi k (i * d2 + j) p := by
  unfold tensorRow
  exact C14_probes_bookkeeping Nbfun (d1 * d2) cells dofs phi y (i * d2 + j) p
    (mul_add_lt_mul hj hi) hp

/-- distinct `(component, point)` pairs occupy distinct rows -/
theorem C14_tensor_row_injective (d2 npts i j p i' j' p' : Nat) (hj : j < d2) (hj' : j' < d2)
    (hp : p < npts) (hp' : p' < npts)
    (h : tensorRow d2 npts i j p = tensorRow d2 npts i' j' p') : i = i' ∧ j = j' ∧ p = p' := by
  unfold tensorRow at h
  obtain ⟨h1, h2⟩ := mul_add_inj hp' hp h
  obtain ⟨h3, h4⟩ := mul_add_inj hj' hj h1
  exact ⟨h3, h4, h2⟩

/-- **`point_source(x) · y`**: row 0 of the dense one-point probing matrix applied to `y` is
    component 0 of the located cell's local expansion at `x` -/
theorem C14_point_source (Nbfun comp N cell : Nat) (dofs : Nat → Nat → Nat)
    (phi : Nat → Nat → Nat → K) (y : Nat → K) (hcomp : 0 < comp) (hd : ∀ k c, dofs k c < N) :
    ∑ d ∈ Finset.range N, denseEntry (probeTriplets Nbfun comp [cell] dofs phi) 0 d * y d
      = ∑ k ∈ Finset.range Nbfun, y (dofs k cell) * phi k 0 0 := by
  rw [C14_dense_action _ N (fun t ht => (C14_probes_shape Nbfun comp N [cell] dofs phi hd t ht).2)]
  exact C14_probes_bookkeeping Nbfun comp [cell] dofs phi y 0 0 hcomp Nat.zero_lt_one

/-- **probing at the mapped quadrature points agrees with `interpolate`**: for the `nt * nq`
    points `x_{k,q} = F_k(X_q)` in the order `p = k * nq + q`, each located in its cell `k` and
    evaluated with the basis' own tables `b j k q`, row `c * (nt * nq) + p` of `probes @ y` is
    component `c` of `basis.interpolate(y)` at `(k, q)` -/
theorem C14_probes_vs_interpolate (Nbfun comp nt nq : Nat) (dofs : Nat → Nat → Nat)
    (b : BasisData K) (y : Nat → K) (c k q : Nat) (hc : c < comp) (hk : k < nt) (hq : q < nq) :
    cooDot (probeTriplets Nbfun comp ((List.range (nt * nq)).map (· / nq)) dofs
        (fun j c p => b j (p / nq) (p % nq) c)) y (c * (nt * nq) + (k * nq + q))
      = interp Nbfun y dofs b k q c := by
  have hp : k * nq + q < nt * nq := mul_add_lt_mul hq hk
  have := C14_probes_bookkeeping Nbfun comp ((List.range (nt * nq)).map (· / nq)) dofs
    (fun j c p => b j (p / nq) (p % nq) c) y c (k * nq + q) hc
    (by rwa [List.length_map, List.length_range])
  rwa [List.length_map, List.length_range, getD_map_range _ _ hp, mul_add_div_of_lt hq,
    Nat.mul_add_mod_of_lt hq] at this

/-- query points with trailing axes: `x` of shape `(dim, a, b)` is flattened to `a * b` points
    (`p = ia * b + ib`) and the result `(comp, a * b)` viewed as `(comp, a, b)`: the flat position
    of `[c, ia, ib]` is that of `[c, p]` -/
theorem C14_interpolator_trailing_axes (a b c ia ib : Nat) :
    (c * a + ia) * b + ib = c * (a * b) + (ia * b + ib) := by ring

/-- `out.reshape(shape)` is admissible iff the sizes agree -/
def reshapeOk (size : Nat) (shape : List Nat) : Bool := shape.prod == size

/-- the repaired `interpolator` reshapes to `base_tensor_order + shape[1:]`: always admissible -/
theorem C14_interpolator_trailing_reshape_ok (tensor trailing : List Nat) :
    reshapeOk (tensor.prod * trailing.prod) (tensor ++ trailing) = true := by
  simp [reshapeOk, List.prod_append]

/-- the pinned tree reshaped to `shape[1:]` alone: for a vector valued basis (2 components) and
    `x` of shape `(2, 2, 2)` the 8 values do not fit `(2, 2)` — NumPy raises `ValueError` -/
theorem C14_interpolator_trailing_old_counterexample :
    reshapeOk ([2].prod * [2, 2].prod) [2, 2] = false := by decide

/-- a repeated cell and a DOF shared by both cells -/
example :
    cooDot (probeTriplets 2 2 [1, 0, 1] (fun k cell => k + cell)
      (fun k c p => ((k + 2 * c + 4 * p + 1 : Nat) : Int))) (fun d => ((10 ^ d : Nat) : Int)) (1 * 3 + 2)
      = 10 * 11 + 100 * 12 := by decide

end Probes

/-- the inside matrix of a triangular mesh given by the vertex coordinates of its cells -/
def triInside (eps : Rat) (cells : List (P2 × P2 × P2)) : Nat → P2 → Bool :=
  fun k x => match cells[k]? with
    | some c => insideTri eps c.1 c.2.1 c.2.2 x
    | none => false

/-- **triangular meshes, any KD-tree**: in exact arithmetic an answer of the finder of a mesh of
    non-degenerate triangles gives every query point a cell whose `eps`-inflation contains it, and
    the finder raises iff some query point lies in no inflated cell -/
theorem C14_tri_mesh_finder (eps : Rat) (cells : List (P2 × P2 × P2))
    (hnd : ∀ c ∈ cells, det2 c.1 c.2.1 c.2.2 ≠ 0) (cand : List Nat)
    (hc : ∀ k ∈ cand, k < cells.length) (pts : List P2) :
    (∀ r, finder (triInside eps cells) cells.length cand pts = some r →
      r.length = pts.length ∧ ∀ i (hi : i < pts.length) (hr : i < r.length),
        ∃ hk : r[i] < cells.length,
          InHull2 eps cells[r[i]].1 cells[r[i]].2.1 cells[r[i]].2.2 pts[i]) ∧
    (finder (triInside eps cells) cells.length cand pts = none ↔
      ∃ x ∈ pts, ∀ k (hk : k < cells.length),
        ¬ InHull2 eps cells[k].1 cells[k].2.1 cells[k].2.2 x) := by
  refine finder_mesh (In := fun k hk x => InHull2 eps cells[k].1 cells[k].2.1 cells[k].2.2 x)
    (fun k hk x => ?_) hc pts
  unfold triInside
  rw [List.getElem?_eq_getElem hk]
  exact C14_inside_tri_spec eps _ _ _ x (hnd _ (List.getElem_mem hk))

/-- a quadrilateral cell: vertices in cyclic order -/
structure Quad where
  p0 : P2
  p1 : P2
  p2 : P2
  p3 : P2

/-- inside matrix of `to_meshtri()` of a quadrilateral mesh (exact, no slack): sub-triangle
    `j` is the triangle `(0,1,3)` (block `j / nt = 0`) or `(1,2,3)` (block 1) of cell `j % nt` -/
def quadSubInside (quads : List Quad) : Nat → P2 → Bool :=
  fun j x => match quads[j % quads.length]? with
    | some q => if j / quads.length = 0 then insideTri 0 q.p0 q.p1 q.p3 x
                else insideTri 0 q.p1 q.p2 q.p3 x
    | none => false

theorem quadSubInside_block (quads : List Quad) (b : Nat) {k : Nat} (hk : k < quads.length)
    (x : P2) :
    quadSubInside quads (b * quads.length + k) x
      = if b = 0 then insideTri 0 quads[k].p0 quads[k].p1 quads[k].p3 x
        else insideTri 0 quads[k].p1 quads[k].p2 quads[k].p3 x := by
  unfold quadSubInside
  rw [Nat.mul_add_mod_of_lt hk, mul_add_div_of_lt hk, List.getElem?_eq_getElem hk]

/-- **quadrilateral meshes, any KD-tree**: for strictly convex quadrilaterals (orientation sign
    `sgn k` per cell, so they may be mixed) an answer of `to_meshtri().element_finder()(x) % nt`
    with the inside test of `quadSubInside` (no slack) gives every query point a cell that
    contains it, and the finder raises iff some query point lies in no cell.
    `sgn k = 1 ∨ sgn k = -1` is not needed. -/
theorem C14_quad_mesh_finder (quads : List Quad) (sgn : Nat → Rat)
    (hconv : ∀ k (hk : k < quads.length), (sgn k = 1 ∨ sgn k = -1) ∧
      ConvexQuad (sgn k) quads[k].p0 quads[k].p1 quads[k].p2 quads[k].p3)
    (cand : List Nat) (hc : ∀ j ∈ cand, j < 2 * quads.length) (pts : List P2) :
    (∀ r, finderSplit (quadSubInside quads) 2 quads.length cand pts = some r →
      r.length = pts.length ∧ ∀ i (hi : i < pts.length) (hr : i < r.length),
        ∃ hk : r[i] < quads.length,
          InQuad (sgn r[i]) quads[r[i]].p0 quads[r[i]].p1 quads[r[i]].p2 quads[r[i]].p3 pts[i]) ∧
    (finderSplit (quadSubInside quads) 2 quads.length cand pts = none ↔
      ∃ x ∈ pts, ∀ k (hk : k < quads.length),
        ¬ InQuad (sgn k) quads[k].p0 quads[k].p1 quads[k].p2 quads[k].p3 x) := by
  -- cell `k` is the union of sub-triangle `k` (block 0) and sub-triangle `nt + k` (block 1)
  refine finderSplit_mesh (In := fun k hk x =>
    InQuad (sgn k) quads[k].p0 quads[k].p1 quads[k].p2 quads[k].p3 x) (fun k hk x => ?_) hc pts
  rw [← C14_quad_split_tiles (sgn k) (hconv k hk).1 _ _ _ _ x (hconv k hk).2]
  simp only [quadSubInside_block quads _ hk]
  constructor
  · rintro ⟨b, _, hins⟩
    split at hins
    · exact Or.inl hins
    · exact Or.inr hins
  · rintro (h | h)
    · exact ⟨0, by omega, h⟩
    · exact ⟨1, by omega, h⟩

/-- an L-shaped domain of three unit squares, the second clockwise -/
def lMesh : List Quad :=
  [⟨(0, 0), (1, 0), (1, 1), (0, 1)⟩, ⟨(1, 0), (1, 1), (2, 1), (2, 0)⟩, ⟨(0, 1), (1, 1), (1, 2), (0, 2)⟩]

example :
    finderSplit (quadSubInside lMesh) 2 3 [0]
        [((3 : Rat) / 2, (1 : Rat) / 2), ((1 : Rat) / 2, (3 : Rat) / 2), ((1 : Rat), (1 : Rat))]
      = some [1, 2, 1]
    ∧ finderSplit (quadSubInside lMesh) 2 3 [0, 1]
        [((1 : Rat) / 2, (1 : Rat) / 2), ((3 : Rat) / 2, (3 : Rat) / 2)] = none := by
  constructor <;> decide +kernel

/-! ### the table cache of `ElementLinePp` met by `probes` (defect F8) -/

/-- with the points as key the cached tables are always those of the requested points -/
theorem C14_linepp_cache (f : Rat → Rat) (cacheX X : List Rat) :
    cachedTable keyPoints f cacheX X = X.map f := by
  unfold cachedTable keyPoints
  split
  · rename_i h
    rw [eq_of_beq h]
  · rfl

/-- with the number of points as key (pinned tree) a single probe point `1/2` is answered with
    the table of the point `0` evaluated before (`_base_tensor_order` evaluates at `0`) -/
theorem C14_linepp_cache_old_counterexample :
    cachedTable keyCount (fun x => x) [0] [1/2] = [0]
    ∧ cachedTable keyPoints (fun x => x) [0] [1/2] = [1/2] := by
  decide +kernel

end Skv.C14
