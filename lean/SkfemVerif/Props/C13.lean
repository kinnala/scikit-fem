import SkfemVerif.Model.RefineAdaptive
import SkfemVerif.Lemmas.RefineAdaptive
import SkfemVerif.Lemmas.RefineAdaptiveGeom
/-
C13  Adaptive refinement: conforming, domain-preserving for every marked set.

Model: Model/RefineAdaptive.lean.  Tie: driver ops `refine.tri` (compared exactly with
`MeshTri1._adaptive` and its three stages), `refine.line`, `refine.tet.step`, `refine.check`
(certificates rebuilt from the implementation's output on every run).

Triangles and segments are proved at the level of the index algebra and of the reference cell.
Tetrahedra only in part: one bisection step, and soundness of the certificate checker
`checkRefinement`.  Not proved: termination of the worklist of `MeshTet1._adaptive`, and the step
from its exit condition (`C13_checker_exit`) to geometric conformity (searched instead).
`Refines` / `History` carry the statements to any dimension and any number of steps.
-/
namespace Skv.C13
open Skv.RA

/-- `_adaptive_sort_mesh` permutes the three vertices of every cell -/
theorem C13_sort_is_permutation {α : Type} [LT α] [DecidableLT α] (q01 q12 q02 : α) (c : Tri) :
    [(sortTri q01 q12 q02 c).1, (sortTri q01 q12 q02 c).2.1, (sortTri q01 q12 q02 c).2.2].Perm
      [c.1, c.2.1, c.2.2] := by
  unfold sortTri
  split
  · exact List.Perm.cons _ (List.Perm.swap _ _ _)
  · split
    · exact List.Perm.swap _ _ _
    · exact List.Perm.refl _

/-- after sorting, the edge in slot 2 (local vertices 0, 2) is a longest edge — except for the
    tie `|01| = |12| > |02|`, which the strict comparisons of the code leave unsorted (it affects
    the shape of the children only) -/
theorem C13_sort_longest {α : Type} [LinearOrder α] (len : Nat → Nat → α) (hsym : ∀ x y, len x y = len y x)
    (c : Tri) (htie : ¬ (len c.1 c.2.1 = len c.2.1 c.2.2 ∧ len c.1 c.2.2 < len c.1 c.2.1)) :
    len (sortTri (len c.1 c.2.1) (len c.2.1 c.2.2) (len c.1 c.2.2) c).1
        (sortTri (len c.1 c.2.1) (len c.2.1 c.2.2) (len c.1 c.2.2) c).2.1
      ≤ len (sortTri (len c.1 c.2.1) (len c.2.1 c.2.2) (len c.1 c.2.2) c).1
        (sortTri (len c.1 c.2.1) (len c.2.1 c.2.2) (len c.1 c.2.2) c).2.2
    ∧ len (sortTri (len c.1 c.2.1) (len c.2.1 c.2.2) (len c.1 c.2.2) c).2.1
        (sortTri (len c.1 c.2.1) (len c.2.1 c.2.2) (len c.1 c.2.2) c).2.2
      ≤ len (sortTri (len c.1 c.2.1) (len c.2.1 c.2.2) (len c.1 c.2.2) c).1
        (sortTri (len c.1 c.2.1) (len c.2.1 c.2.2) (len c.1 c.2.2) c).2.2 := by
  unfold sortTri
  split
  · rename_i h
    simp only
    rw [hsym c.2.2 c.2.1]
    exact ⟨le_of_lt h.1, le_of_lt h.2⟩
  · split
    · rename_i h1 h
      simp only
      rw [hsym c.2.1 c.1]
      exact ⟨le_of_lt h.1, le_of_lt h.2⟩
    · rename_i h1 h2
      simp only [not_and, not_lt] at h1 h2 htie
      -- a = |01|, b = |12|, c = |02|;  h1 : c < a → a ≤ b,  h2 : a < b → b ≤ c,  htie : a = b → a ≤ c
      have hac : len c.1 c.2.1 ≤ len c.1 c.2.2 := by
        by_contra hc
        rw [not_le] at hc
        rcases lt_or_eq_of_le (h1 hc) with h4 | h4
        · exact lt_irrefl _ (lt_of_lt_of_le (lt_trans hc h4) (h2 h4))
        · exact lt_irrefl _ (lt_of_lt_of_le hc (htie h4))
      exact ⟨hac, le_of_not_gt fun hc => not_le.2 hc (h2 (lt_of_le_of_lt hac hc))⟩

/-- the excluded tie (squared lengths 4, 4, 1) is left unsorted -/
example : sortTri (4 : Nat) 4 1 (7, 8, 9) = (7, 8, 9) := by decide

/-- **the marking loop terminates in a fixpoint**: with `nfacets + 1` passes of fuel (every
    non-final pass marks a new facet) the result `r` satisfies `step r = r`; it has one entry per
    facet -/
theorem C13_rgb_closure_terminates (t2f : List Tri) (nf : Nat) (marked : List Nat) :
    step t2f (findFacets t2f nf marked) = findFacets t2f nf marked
      ∧ (findFacets t2f nf marked).length = nf := by
  have hlen : (initMarks t2f nf marked).length = nf := by simp [initMarks]
  refine ⟨step_closure t2f (nf + 1) _ (by rw [hlen]; omega), ?_⟩
  unfold findFacets
  rw [closure_length, hlen]

/-- more fuel changes nothing -/
theorem C13_rgb_closure_stable (t2f : List Tri) (nf : Nat) (marked : List Nat) (extra : Nat) :
    closure extra t2f (findFacets t2f nf marked) = findFacets t2f nf marked :=
  closure_eq_of_step_eq t2f _ (C13_rgb_closure_terminates t2f nf marked).1 extra

/-- **no facet is split without need**: the result contains the facets of the marked cells and is
    contained in every set `S` that contains them and is closed under "slot 0 or slot 1 marked ⇒
    slot 2 marked".  That it is itself closed is `C13_rgb_closure_terminates`. -/
theorem C13_rgb_closure_least (t2f : List Tri) (nf : Nat) (marked : List Nat) :
    (∀ f, get (initMarks t2f nf marked) f = true → get (findFacets t2f nf marked) f = true)
    ∧ ∀ S : Nat → Prop, Closed t2f S → (∀ f, get (initMarks t2f nf marked) f = true → S f) →
        ∀ f, get (findFacets t2f nf marked) f = true → S f :=
  ⟨fun f h => closure_extends t2f _ _ f h, fun S hS hinit f hf => closure_sub t2f S hS _ _ hinit f hf⟩

/-- **admissible patterns**: at the fixpoint every cell (facet numbers `< nf`) has one of the five
    patterns none / {2} / {1,2} / {0,2} / {0,1,2}: it is in one of the masks `rest, green, blue1,
    blue2, red`, never in none (`bad`: the cell would vanish) -/
theorem C13_rgb_patterns (t2f : List Tri) (nf : Nat) (marked : List Nat) (c : Tri) (hc : c ∈ t2f)
    (hlt : c.2.2 < nf) :
    clsOf (findFacets t2f nf marked) c ≠ .bad
    ∧ (clsOf (findFacets t2f nf marked) c = .rest ∨ clsOf (findFacets t2f nf marked) c = .green
        ∨ clsOf (findFacets t2f nf marked) c = .blue1 ∨ clsOf (findFacets t2f nf marked) c = .blue2
        ∨ clsOf (findFacets t2f nf marked) c = .red) := by
  obtain ⟨hfix, hlen⟩ := C13_rgb_closure_terminates t2f nf marked
  have hne : clsOf (findFacets t2f nf marked) c ≠ .bad := by
    unfold clsOf
    apply classify_ne_bad
    intro h
    exact closed_of_step_eq t2f _ hfix c hc (by rw [hlen]; exact hlt) h
  refine ⟨hne, ?_⟩
  cases h : clsOf (findFacets t2f nf marked) c <;> simp_all

/-- the marks of the marked cells alone (`initMarks`) leave a cell in none of the masks, and the
    loop repairs it: two cells sharing facet 0, slot 0 of the unmarked one -/
theorem C13_rgb_patterns_need_closure :
    clsOf (initMarks [(0, 1, 2), (0, 3, 4)] 5 [0]) (0, 3, 4) = .bad
      ∧ clsOf (findFacets [(0, 1, 2), (0, 3, 4)] 5 [0]) (0, 3, 4) = .blue2 := by
  decide

/-- **every marked cell is refined red** (facet numbers `< nf`) -/
theorem C13_marked_refined (t2f : List Tri) (nf : Nat) (marked : List Nat) (k : Nat) (hk : k ∈ marked)
    (c : Tri) (hc : t2f[k]? = some c) (h0 : c.1 < nf) (h1 : c.2.1 < nf) (h2 : c.2.2 < nf) :
    clsOf (findFacets t2f nf marked) c = .red := by
  have hm : ∀ f, f < nf → (f = c.1 ∨ f = c.2.1 ∨ f = c.2.2) → get (findFacets t2f nf marked) f = true :=
    fun f hf h => (C13_rgb_closure_least t2f nf marked).1 f ((get_initMarks t2f nf marked f).2 ⟨hf, k, hk, c, hc, h⟩)
  exact (classify_red _ _ _).2 ⟨hm _ h0 (.inl rfl), hm _ h1 (.inr (.inl rfl)), hm _ h2 (.inr (.inr rfl))⟩

/-- **conformity across a facet**: two cells `(c, f)`, `(c', f')` (vertices, facet numbers) that
    see the same facet in their slots `s`, `s'` take the same decision — the facet's mark: both
    templates split that side or neither does — and resolve its midpoint to the same vertex -/
theorem C13_rgb_conforming (nv : Nat) (m : List Bool) (c f c' f' : Tri) (s s' : Nat) (hs : s < 3) (hs' : s' < 3)
    (hshare : slot f s = slot f' s') (hcl : clsOf m f ≠ .bad) (hcl' : clsOf m f' ≠ .bad) :
    sideMarked (clsOf m f) s = sideMarked (clsOf m f') s'
    ∧ sideMarked (clsOf m f) s = get m (slot f s)
    ∧ resolve nv m c f (sideRV s).2.1 = resolve nv m c' f' (sideRV s').2.1 := by
  refine ⟨?_, sideMarked_clsOf m f s hs hcl, ?_⟩
  · rw [sideMarked_clsOf m f s hs hcl, sideMarked_clsOf m f' s' hs' hcl', hshare]
  · rw [resolve_mid, resolve_mid, hshare]

/-- **trace of the templates on the sides of the parent**: for each of the five classes and each
    side, the child edges lying on that side are the whole side `(a,b)` when its facet is not
    marked and the two halves `(a,m)`, `(m,b)` when it is (`traceOK`, evaluated on the template
    tables that also drive the executable model) -/
theorem C13_rgb_side_trace : ∀ cl ∈ [Cls.rest, .red, .blue1, .blue2, .green], ∀ s ∈ [0, 1, 2],
    traceOK cl s = true := by
  decide

/-- new vertices created for different marked facets are different and lie beyond the old ones -/
theorem C13_rgb_new_vertices (nv : Nat) (m : List Bool) (f g : Nat) (hf : f < m.length) (hg : g < m.length)
    (hmf : get m f = true) (hmg : get m g = true) :
    nv ≤ midIdx nv m f ∧ (midIdx nv m f = midIdx nv m g → f = g) := by
  refine ⟨by unfold midIdx; omega, fun h => ?_⟩
  have h1 := getElem?_filter_range_rank (fun g => get m g) hf hmf
  rw [show ((List.range f).filter (fun g => get m g)).length = ((List.range g).filter (fun g => get m g)).length
    from Nat.add_left_cancel h, getElem?_filter_range_rank (fun g => get m g) hg hmg] at h1
  exact (Option.some.inj h1).symm

section Geo
variable {K : Type} [Field K] [LinearOrder K] [IsStrictOrderedRing K]

/-- **every template is an exact partition of the parent** (the reference triangle over any
    ordered field; the transfer to a physical cell by its affine map is not part of the
    statement): the children cover the parent, lie inside it, have pairwise disjoint interiors and
    are not degenerate -/
theorem C13_rgb_template_partition (cl : Cls) (hcl : cl ≠ .bad) :
    (∀ u v : K, inParent u v → ∃ T ∈ template cl, inClosed T u v)
    ∧ (∀ T ∈ template cl, ∀ u v : K, inClosed T u v → inParent u v)
    ∧ (template cl).Pairwise (fun T T' => ∀ u v : K, ¬ (inOpen T u v ∧ inOpen T' u v))
    ∧ (∀ T ∈ template cl, orient (K := K) T.1 T.2.1 (rvx T.2.2) (rvy T.2.2) ≠ 0) :=
  have h := tiles_template (K := K) cl hcl
  ⟨fun u v hp => h.cover u v ((inParent_iff u v).1 hp),
    fun T hT u v hc => (inParent_iff u v).2 (h.inside .le T hT u v hc), h.disjoint,
    fun T hT => template_nondegenerate cl T hT⟩

end Geo

/-- **`new_t` lists exactly the children**: child `j` of old cell `k` (template of the cell's class,
    resolved with the cell's vertices and the new vertices of its facets) is the new cell number
    `childIdx k j` = `new_t[j, k]`.  `hcl` is not needed: the template of `bad` is empty, so `hj` excludes it. -/
theorem C13_rgb_children (x : TriInput) (k j : Nat) (hk : k < x.cls.length)
    (hcl : x.cls.getD k .bad ≠ .bad) (hj : j < (template (x.cls.getD k .bad)).length) :
    x.newCells[x.childIdx k j]? = some (x.child (x.cls.getD k .bad) j k) := by
  have hb := block_rank x _ j k hk rfl
  obtain ⟨hlt, _⟩ := List.getElem?_eq_some_iff.1 hb
  have := getElem?_flatten_add x.blocks (blockPos (x.cls.getD k .bad) + j) (rankIn x.cls (x.cls.getD k .bad) k)
    (by rw [blocks_getD x _ j hj]; exact hlt)
  rw [blocks_prefix x _ j hj, blocks_getD x _ j hj, hb] at this
  exact this

/-- … and every new cell is such a child -/
theorem C13_rgb_parent (x : TriInput) (i : Nat) (hi : i < x.newCells.length) :
    ∃ k j, k < x.cls.length ∧ x.cls.getD k .bad ≠ .bad ∧ j < (template (x.cls.getD k .bad)).length
      ∧ x.childIdx k j = i := by
  obtain ⟨a, b, ha, hb, rfl⟩ := exists_block_of_lt_flatten x.blocks hi
  obtain ⟨cl, j, hcl, hj, rfl⟩ := blockPos_decomp a (by simpa [TriInput.blocks] using ha)
  rw [blocks_getD x cl j hj, length_block] at hb
  obtain ⟨hk, hp⟩ := List.mem_filter.1 (List.getElem_mem hb)
  have hcls : x.cls.getD (members x.cls cl)[b] .bad = cl := by simpa using hp
  refine ⟨_, j, List.mem_range.1 hk, hcls.symm ▸ hcl, hcls.symm ▸ hj, ?_⟩
  rw [TriInput.childIdx, hcls, blocks_prefix x cl j hj]
  exact congrArg _ (length_filter_range_getElem _ _ b hb)
/-- **named subdomains**: the new index array of a subdomain lists exactly the children of its
    cells, ascending without repetition -/
theorem C13_rgb_subdomains (x : TriInput) (ixs : List Nat) :
    (∀ i, i ∈ x.subdomain ixs ↔ ∃ k ∈ ixs, ∃ j, j < (template (x.cls.getD k .bad)).length ∧ i = x.childIdx k j)
    ∧ (x.subdomain ixs).Pairwise (· < ·) := by
  refine ⟨fun i => ?_, pairwise_unique _⟩
  simp only [TriInput.subdomain, TriInput.childIdxs, mem_unique, List.mem_flatMap, List.mem_map, List.mem_range,
    eq_comm]

/-- **points**: old points keep their index; the vertex `midIdx` of a marked facet is the midpoint
    of its end points; the number of points grows by the number of marked facets -/
theorem C13_rgb_points {P : Type} (midp : P → P → P) (d : P) (p : List P) (facets : List (Nat × Nat))
    (m : List Bool) :
    (∀ i, i < p.length → (newPoints midp d p facets m)[i]? = p[i]?)
    ∧ (∀ f, f < m.length → get m f = true →
        (newPoints midp d p facets m)[midIdx p.length m f]? =
          some (midp (p.getD (facets.getD f (0, 0)).1 d) (p.getD (facets.getD f (0, 0)).2 d)))
    ∧ (newPoints midp d p facets m).length = p.length + countTrue m := by
  refine ⟨fun i hi => List.getElem?_append_left hi, fun f hf hm => ?_, ?_⟩
  · unfold newPoints midIdx rank
    rw [List.getElem?_append_right (by omega)]
    simp only [Nat.add_sub_cancel_left, List.getElem?_map]
    rw [getElem?_filter_range_rank (fun g => get m g) hf hm]
    rfl
  · unfold newPoints countTrue
    simp only [List.length_append, List.length_map]
    rw [length_filter_get]

/-- **cells of `MeshLine1._adaptive`** (`marked` without repetition): an unmarked cell is copied
    to the position listed by `lineChildIdxs`; the `i`-th marked cell `(a,b)` becomes `(a, mid0+i)`
    and `(mid0+i, b)` at its two positions; there are as many cells as unmarked ones plus twice the
    marked ones -/
theorem C13_line_children (mid0 : Nat) (t : List Seg) (marked : List Nat) (hnd : marked.Nodup) :
    (∀ k, k < t.length → k ∉ marked →
      (lineChildIdxs t.length marked k).map (fun i => (lineCells mid0 t marked)[i]?) = [some (t.getD k (0, 0))])
    ∧ (∀ i (hi : i < marked.length),
      (lineChildIdxs t.length marked marked[i]).map (fun i => (lineCells mid0 t marked)[i]?)
        = [some ((t.getD marked[i] (0, 0)).1, mid0 + i), some (mid0 + i, (t.getD marked[i] (0, 0)).2)])
    ∧ (lineCells mid0 t marked).length = (nonmarked t.length marked).length + 2 * marked.length := by
  refine ⟨fun k hk hm => ?_, fun i hi => ?_, by
    simp only [lineCells, List.length_append, List.length_map, List.length_zipIdx]; omega⟩
  · rw [lineChildIdxs_unmarked _ _ k hm]
    simp only [List.map_cons, List.map_nil]
    rw [lineCells_unmarked mid0 t marked k hk hm]
  · rw [lineChildIdxs_marked _ _ hnd i hi]
    obtain ⟨h1, h2⟩ := lineCells_marked mid0 t marked i hi
    simp only [List.map_cons, List.map_nil]
    rw [h1, h2]

/-- **points**: old points keep their index, the new point `p.length + i` is the midpoint of the
    `i`-th marked cell (the code numbers it `max(t) + 1 + i`: the same for a mesh without unused points) -/
theorem C13_line_points (p : List Rat) (t : List Seg) (marked : List Nat) :
    (∀ i, i < p.length → (linePoints p t marked)[i]? = p[i]?)
    ∧ ∀ i (hi : i < marked.length), (linePoints p t marked)[p.length + i]?
        = some ((p.getD (t.getD marked[i] (0, 0)).1 0 + p.getD (t.getD marked[i] (0, 0)).2 0) / 2) := by
  unfold linePoints
  refine ⟨fun i hi => List.getElem?_append_left hi, fun i hi => ?_⟩
  rw [List.getElem?_append_right (by omega), Nat.add_sub_cancel_left, List.getElem?_map, List.getElem?_eq_getElem hi]
  rfl

/-- **named subdomains (repaired code)**: the new index array lists exactly the children -/
theorem C13_line_subdomains (nt : Nat) (marked ixs : List Nat) :
    (∀ i, i ∈ lineSubdomain nt marked ixs ↔ ∃ k ∈ ixs, i ∈ lineChildIdxs nt marked k)
    ∧ (lineSubdomain nt marked ixs).Pairwise (· < ·) := by
  refine ⟨fun i => ?_, pairwise_unique _⟩
  unfold lineSubdomain
  rw [mem_unique]
  simp [List.mem_flatMap]

/-- finding F6: the pinned code keeps the old index array although the cells are reordered.
    Two cells, cell 0 marked, subdomain `{0}`: its region becomes new cells 1, 2, the kept array
    `[0]` names the copy of old cell 1 -/
theorem C13_line_old_counterexample :
    lineSubdomainOld 2 [0] [0] = [0] ∧ lineSubdomain 2 [0] [0] = [1, 2]
      ∧ lineParent 2 [0] 0 = 1 ∧ lineParent 2 [0] 1 = 0 ∧ lineParent 2 [0] 2 = 0 := by
  decide

section Tet
variable {K : Type} [Field K] [LinearOrder K] [IsStrictOrderedRing K]

/-- `_adaptive_sort_mesh` (tetrahedra) permutes the vertices of the cell -/
theorem C13_tet_sort_is_permutation {α : Type} [LT α] [DecidableLT α] (l01 l12 l02 l03 l13 l23 : α) (c : Tet) :
    let s := sortTet l01 l12 l02 l03 l13 l23 c
    [s.1, s.2.1, s.2.2.1, s.2.2.2].Perm [c.1, c.2.1, c.2.2.1, c.2.2.2] := by
  obtain ⟨a, b, cc, d⟩ := c
  -- every branch relists `[a, b, cc, d]` by a rearrangement of the positions `0 … 3`
  have P : ∀ q : List Nat, q.Perm (List.range 4) →
      (q.map fun i => [a, b, cc, d].getD i 0).Perm [a, b, cc, d] := fun q => perm_map_getD [a, b, cc, d] 0
  let Q := fun s : Tet => [s.1, s.2.1, s.2.2.1, s.2.2.2].Perm [a, b, cc, d]
  -- as a term: `split` on the long conditions of `sortTet` is slow to check
  exact iteInduction (motive := Q) (fun _ => P [3, 2, 1, 0] (by decide)) fun _ =>
    iteInduction (motive := Q) (fun _ => P [1, 3, 2, 0] (by decide)) fun _ =>
    iteInduction (motive := Q) (fun _ => P [1, 2, 0, 3] (by decide)) fun _ =>
    iteInduction (motive := Q) (fun _ => P [0, 3, 1, 2] (by decide)) fun _ =>
    iteInduction (motive := Q) (fun _ => P [2, 0, 1, 3] (by decide)) fun _ => .refl _

/-- **one bisection step**: with `m` the midpoint of `(t0,t1)` both children `(t3,t0,t2,m)`,
    `(t2,t1,t3,m)` have half of the signed volume of `(t0,t1,t2,t3)` (so the same orientation, and
    degenerate only if the parent is) -/
theorem C13_tet_bisect_volume (pos : Nat → K × K × K) (t0 t1 t2 t3 m : Nat)
    (hm : pos m = mid3 (pos t0) (pos t1)) :
    2 * vol3 pos [(bisect (t0, t1, t2, t3) m).1.1, (bisect (t0, t1, t2, t3) m).1.2.1,
        (bisect (t0, t1, t2, t3) m).1.2.2.1, (bisect (t0, t1, t2, t3) m).1.2.2.2] = vol3 pos [t0, t1, t2, t3]
    ∧ 2 * vol3 pos [(bisect (t0, t1, t2, t3) m).2.1, (bisect (t0, t1, t2, t3) m).2.2.1,
        (bisect (t0, t1, t2, t3) m).2.2.2.1, (bisect (t0, t1, t2, t3) m).2.2.2.2] = vol3 pos [t0, t1, t2, t3] := by
  simp only [bisect, vol3]
  rw [hm]
  simp only [mid3, det3, sub3]
  constructor <;> ring

/-- … and together they cover it: a point with weights `w ≥ 0` lies in the first child when
    `w1 ≤ w0` and in the second one when `w0 ≤ w1`, with non-negative weights of the same sum
    (for every affine function `c`, e.g. each coordinate) -/
theorem C13_tet_bisect_cover (c : Nat → K) (t0 t1 t2 t3 m : Nat) (hm : 2 * c m = c t0 + c t1)
    (w0 w1 w2 w3 : K) :
    (comb c [t3, t0, t2, m] [w3, w0 - w1, w2, 2 * w1] = comb c [t0, t1, t2, t3] [w0, w1, w2, w3]
      ∧ w3 + (w0 - w1) + w2 + 2 * w1 = w0 + w1 + w2 + w3)
    ∧ (comb c [t2, t1, t3, m] [w2, w1 - w0, w3, 2 * w0] = comb c [t0, t1, t2, t3] [w0, w1, w2, w3]
      ∧ w2 + (w1 - w0) + w3 + 2 * w0 = w0 + w1 + w2 + w3) := by
  simp only [comb]
  refine ⟨⟨?_, by ring⟩, ⟨?_, by ring⟩⟩
  · linear_combination w1 * hm
  · linear_combination w0 * hm

end Tet

/-- **soundness of the checker**: an accepted certificate has the properties `Accepted` (all seven
    clauses but, of clause 0, the check that every new point has `dim` coordinates) -/
theorem C13_checker_sound (dim : Nat) (old new : SMesh) (forest : List BTree) (marked : List Nat)
    (h : checkRefinement dim old new forest marked = true) : Accepted dim old new forest marked := by
  simp only [checkRefinement, checkClauses, List.all_cons, List.all_nil, id, Bool.and_true,
    Bool.and_eq_true, beq_iff_eq, decide_eq_true_eq, List.all_eq_true] at h
  obtain ⟨⟨⟨⟨hlen, hos⟩, hns⟩, _⟩, ⟨hle, htake⟩, htrees, hleaves, hmarked, hexit, hmids⟩ := h
  refine ⟨hlen, hos, hle, hns, fun i hi => ?_, fun k hk => ?_, ?_, hmarked, fun L hL e he hcon => ?_,
    fun e he e' he' => ?_⟩
  · rw [← htake, List.getElem?_take_of_lt hi]
  · have hk' : k < forest.length := hlen ▸ hk
    rw [getD_eq_getElem _ _ hk, getD_eq_getElem _ _ hk']
    have hz : k < (old.t.zip forest).length := by simp; omega
    exact htrees (old.t[k], forest[k]) (List.getElem_zip ▸ List.getElem_mem hz)
  · exact hleaves ▸ (perm_sortCol _).symm
  · have := hexit L hL e he
    rw [List.contains_iff_mem.2 hcon.1, List.contains_iff_mem.2 hcon.2] at this
    cases this
  · simpa using Bool.eq_iff_iff.1 (hmids e he e' he')

/-- old vertices keep index and position -/
theorem C13_checker_old_vertices (dim : Nat) (old new : SMesh) (forest : List BTree) (marked : List Nat)
    (h : checkRefinement dim old new forest marked = true) (i : Nat) (hi : i < old.p.length) :
    new.p[i]? = old.p[i]? :=
  (C13_checker_sound dim old new forest marked h).oldVerts i hi

/-- every new cell is a leaf of exactly one tree, exactly once: the leaves, read tree by tree, are
    a permutation of `0 … nt'-1` -/
theorem C13_checker_leaves (dim : Nat) (old new : SMesh) (forest : List BTree) (marked : List Nat)
    (h : checkRefinement dim old new forest marked = true) :
    (forest.flatMap BTree.leaves).Perm (List.range new.t.length) ∧ (forest.flatMap BTree.leaves).Nodup := by
  have hp := (C13_checker_sound dim old new forest marked h).leaves
  exact ⟨hp, hp.nodup_iff.2 List.nodup_range⟩

/-- every marked cell is bisected (its tree has at least two leaves) -/
theorem C13_checker_marked (dim : Nat) (old new : SMesh) (forest : List BTree) (marked : List Nat)
    (h : checkRefinement dim old new forest marked = true) (k : Nat) (hk : k ∈ marked) :
    2 ≤ (forest.getD k (.leaf 0)).leaves.length := by
  have hl : ∀ t : BTree, 1 ≤ t.leaves.length := by
    intro t
    induction t with
    | leaf c => simp [BTree.leaves]
    | node i j m l r ihl _ => simp only [BTree.leaves, List.length_append]; omega
  have := (C13_checker_sound dim old new forest marked h).marked k hk
  cases hf : forest.getD k (.leaf 0) with
  | leaf c => rw [hf] at this; cases this
  | node i j m l r =>
    have := hl l
    have := hl r
    simp only [BTree.leaves, List.length_append]
    omega

/-- **exit condition of the worklist**: no new cell contains both end points of an edge that was
    bisected anywhere in the forest (such a cell would have the edge's midpoint as a hanging node);
    and the midpoint vertex is a function of the edge, different edges having different midpoints -/
theorem C13_checker_exit (dim : Nat) (old new : SMesh) (forest : List BTree) (marked : List Nat)
    (h : checkRefinement dim old new forest marked = true) :
    (∀ L ∈ new.t, ∀ e ∈ forestEdges old.t forest, ¬ (e.1 ∈ L ∧ e.2.1 ∈ L))
    ∧ ∀ e ∈ forestEdges old.t forest, ∀ e' ∈ forestEdges old.t forest,
        ((e.1 = e'.1 ∧ e.2.1 = e'.2.1) ∨ (e.1 = e'.2.1 ∧ e.2.1 = e'.1)) ↔ e.2.2 = e'.2.2 :=
  ⟨(C13_checker_sound dim old new forest marked h).exit, (C13_checker_sound dim old new forest marked h).mids⟩

/-- **same domain, covering direction**: every point of old cell `k` (weights `w ≥ 0` on its
    vertices) lies in a new cell `q.2` that is a leaf of tree `k`; `q.1` lists the vertices of that
    new cell (`sortCol` equal) in the order in which the weights `w'` apply; all coordinates agree -/
theorem C13_checker_cover (dim : Nat) (old new : SMesh) (forest : List BTree) (marked : List Nat)
    (h : checkRefinement dim old new forest marked = true) (k : Nat) (hk : k < old.t.length)
    (w : List Rat) (hw : w.length = dim + 1) (hnn : ∀ x ∈ w, 0 ≤ x) :
    ∃ q ∈ leafPairs (old.t.getD k []) (forest.getD k (.leaf 0)),
      q.2 < new.t.length ∧ sortCol q.1 = sortCol (new.t.getD q.2 []) ∧
      ∃ w' : List Rat, w'.length = w.length ∧ (∀ x ∈ w', 0 ≤ x) ∧ w'.sum = w.sum ∧
        ∀ d, comb (coordFn new.p d) q.1 w' = comb (coordFn new.p d) (old.t.getD k []) w := by
  obtain ⟨hS, hb, hleaf⟩ := (C13_checker_sound dim old new forest marked h).tree hk
  obtain ⟨q, hq, hw'⟩ := tree_cover _ _ _ hb w (hS.trans hw.symm) hnn
  exact ⟨q, hq, (hleaf q hq).2, (hleaf q hq).1, hw'⟩

/-- **nesting**: every new cell `c` is a leaf of the tree of some old cell `k`, and every point of
    it (weights `w' ≥ 0` on the vertex list `q.1`, a reordering of the cell's vertices) is a point of
    old cell `k` -/
theorem C13_checker_nested (dim : Nat) (old new : SMesh) (forest : List BTree) (marked : List Nat)
    (h : checkRefinement dim old new forest marked = true) (c : Nat) (hc : c < new.t.length) :
    ∃ k, k < old.t.length ∧ ∃ q ∈ leafPairs (old.t.getD k []) (forest.getD k (.leaf 0)),
      q.2 = c ∧ sortCol q.1 = sortCol (new.t.getD c []) ∧ q.1.length = dim + 1 ∧
      ∀ w' : List Rat, w'.length = dim + 1 → (∀ x ∈ w', 0 ≤ x) →
        ∃ w : List Rat, w.length = dim + 1 ∧ (∀ x ∈ w, 0 ≤ x) ∧ w.sum = w'.sum ∧
          ∀ d, comb (coordFn new.p d) (old.t.getD k []) w = comb (coordFn new.p d) q.1 w' := by
  have acc := C13_checker_sound dim old new forest marked h
  obtain ⟨tr, htr, hctr⟩ := List.mem_flatMap.1 (acc.leaves.mem_iff.2 (List.mem_range.2 hc))
  obtain ⟨k, hk, rfl⟩ := List.getElem_of_mem htr
  have hk' : k < old.t.length := acc.len ▸ hk
  obtain ⟨hS, hb, hleaf⟩ := acc.tree hk'
  rw [← getD_eq_getElem forest (.leaf 0) hk, ← leafPairs_snd _ (old.t.getD k [])] at hctr
  obtain ⟨q, hq, rfl⟩ := List.mem_map.1 hctr
  refine ⟨k, hk', q, hq, rfl, (hleaf q hq).1,
    (perm_of_sortCol_eq (hleaf q hq).1).length_eq.trans (acc.newShape _ (getD_mem new.t [] hc)).1,
    fun w' hw' hnn => ?_⟩
  obtain ⟨w, hl, hw⟩ := tree_nested _ _ _ hb q hq w' (hS.trans hw'.symm) hnn
  exact ⟨w, hl.trans hw', hw⟩

/-- **volumes (tetrahedra)**: the leaf simplex at depth `d` of tree `k`, with its vertices in the
    order in which the tree derives them (`leafSimplices`), has `2^-d` of the signed volume of old
    cell `k`, and these volumes add up to that of the old cell.  The checker ties a new cell to its
    leaf simplex as a vertex set only (`sortCol`): nothing is said about the sign of the volume of
    a cell of `new.t` in its own vertex order. -/
theorem C13_checker_volume (old new : SMesh) (forest : List BTree) (marked : List Nat)
    (h : checkRefinement 3 old new forest marked = true) (k : Nat) (hk : k < old.t.length) :
    let pos := pos3 (coordFn new.p 0) (coordFn new.p 1) (coordFn new.p 2)
    (∀ L d, (L, d) ∈ (forest.getD k (.leaf 0)).leafSimplices (old.t.getD k []) 0 →
        2 ^ d * vol3 pos L = vol3 pos (old.t.getD k []))
    ∧ (((forest.getD k (.leaf 0)).leafSimplices (old.t.getD k []) 0).map (fun q => vol3 pos q.1)).sum
        = vol3 pos (old.t.getD k []) := by
  intro pos
  obtain ⟨hS, hb, _⟩ := (C13_checker_sound 3 old new forest marked h).tree hk
  obtain ⟨hv, hs⟩ := tree_volume _ pos (fun _ => rfl) _ _ 0 hS hb
  exact ⟨fun L d hLd => by rw [hv L d hLd, pow_zero, one_mul], hs⟩

/-- one tetrahedron bisected: accepted; with the midpoint misplaced or a leaf missing: rejected -/
example : checkRefinement 3
    { p := [[0, 0, 0], [2, 0, 0], [0, 1, 0], [0, 0, 1]], t := [[0, 1, 2, 3]] }
    { p := [[0, 0, 0], [2, 0, 0], [0, 1, 0], [0, 0, 1], [1, 0, 0]], t := [[3, 0, 2, 4], [2, 1, 3, 4]] }
    [.node 0 1 4 (.leaf 0) (.leaf 1)] [0] = true := by decide +kernel
example : checkRefinement 3
    { p := [[0, 0, 0], [2, 0, 0], [0, 1, 0], [0, 0, 1]], t := [[0, 1, 2, 3]] }
    { p := [[0, 0, 0], [2, 0, 0], [0, 1, 0], [0, 0, 1], [1, 1, 0]], t := [[3, 0, 2, 4], [2, 1, 3, 4]] }
    [.node 0 1 4 (.leaf 0) (.leaf 1)] [0] = false := by decide +kernel
example : checkRefinement 3
    { p := [[0, 0, 0], [2, 0, 0], [0, 1, 0], [0, 0, 1]], t := [[0, 1, 2, 3]] }
    { p := [[0, 0, 0], [2, 0, 0], [0, 1, 0], [0, 0, 1], [1, 0, 0]], t := [[3, 0, 2, 4], [2, 1, 3, 4]] }
    [.node 0 1 4 (.leaf 0) (.leaf 0)] [0] = false := by decide +kernel

/-- two triangles sharing facet 0, cell 0 marked -/
example : findFacets [(0, 1, 2), (0, 3, 4)] 5 [0] = [true, true, true, false, true] := by decide
example : (TriInput.mk 4 [(0, 1, 2), (0, 1, 3)] [(0, 1, 2), (0, 3, 4)] [true, true, true, false, true]).cls
    = [.red, .blue2] := by decide
example : (TriInput.mk 4 [(0, 1, 2), (0, 1, 3)] [(0, 1, 2), (0, 3, 4)] [true, true, true, false, true]).newCells
    = [(0, 4, 6), (1, 4, 5), (2, 5, 6), (5, 6, 4), (0, 4, 7), (7, 4, 1), (3, 7, 1)] := by decide

/-- coordinate `d` of the point of cell `k` of mesh `m` with barycentric weights `w` -/
def cellPoint (m : SMesh) (k : Nat) (w : List Rat) (d : Nat) : Rat :=
  comb (coordFn m.p d) (m.t.getD k []) w

/-- barycentric weights of a `dim`-simplex; their sum is not fixed to 1, the statements preserve it
    whatever it is -/
def Weights (dim : Nat) (w : List Rat) : Prop := w.length = dim + 1 ∧ ∀ x ∈ w, 0 ≤ x

/-- `new` is a domain-preserving nested refinement of `old` -/
structure Refines (dim : Nat) (old new : SMesh) : Prop where
  verts : ∀ i, i < old.p.length → new.p[i]? = old.p[i]?
  cover : ∀ k, k < old.t.length → ∀ w, Weights dim w →
    ∃ c, c < new.t.length ∧ ∃ w', Weights dim w' ∧ w'.sum = w.sum ∧
      ∀ d, cellPoint new c w' d = cellPoint old k w d
  nested : ∀ c, c < new.t.length → ∃ k, k < old.t.length ∧ ∀ w', Weights dim w' →
    ∃ w, Weights dim w ∧ w.sum = w'.sum ∧ ∀ d, cellPoint old k w d = cellPoint new c w' d

theorem coordFn_old (old new : SMesh) (h : ∀ i, i < old.p.length → new.p[i]? = old.p[i]?) (d v : Nat)
    (hv : v < old.p.length) : coordFn new.p d v = coordFn old.p d v := by
  unfold coordFn
  rw [List.getD_eq_getElem?_getD (l := new.p), List.getD_eq_getElem?_getD (l := old.p), h v hv]

/-- the same point with the vertices of the simplex in another order -/
theorem weights_reorder (dim : Nat) {L L' : List Nat} (h : sortCol L = sortCol L') (hL : L'.length = dim + 1)
    (w : List Rat) (hw : Weights dim w) :
    ∃ w', Weights dim w' ∧ w'.sum = w.sum ∧ ∀ c : Nat → Rat, comb c L' w' = comb c L w := by
  have hp := perm_of_sortCol_eq h
  obtain ⟨w', hp, hc⟩ := comb_perm hp w (hw.1.trans (hp.length_eq.trans hL).symm)
  exact ⟨w', ⟨hp.length_eq.trans hw.1, fun x hx => hw.2 x (hp.mem_iff.1 hx)⟩, hp.sum_eq, hc⟩

/-- **an accepted certificate proves a domain-preserving nested refinement** -/
theorem C13_checker_refines (dim : Nat) (old new : SMesh) (forest : List BTree) (marked : List Nat)
    (h : checkRefinement dim old new forest marked = true) : Refines dim old new := by
  have acc := C13_checker_sound dim old new forest marked h
  -- a point of old cell `k` has the same coordinates in the new point array
  have hold : ∀ k, k < old.t.length → ∀ w d,
      comb (coordFn new.p d) (old.t.getD k []) w = cellPoint old k w d := fun k hk w d =>
    comb_congr _ _ _ _ fun v hv =>
      coordFn_old old new acc.oldVerts d v ((acc.oldShape _ (getD_mem old.t [] hk)).2 v hv)
  refine ⟨acc.oldVerts, fun k hk w hw => ?_, fun c hc => ?_⟩
  · obtain ⟨q, _, hq2, hsort, w', hlen, hnn, hsum, hcw⟩ :=
      C13_checker_cover dim old new forest marked h k hk w hw.1 hw.2
    obtain ⟨w'', hW, hs, hcomb⟩ :=
      weights_reorder dim hsort (acc.newShape _ (getD_mem new.t [] hq2)).1 w' ⟨hlen.trans hw.1, hnn⟩
    exact ⟨q.2, hq2, w'', hW, hs.trans hsum, fun d => by rw [cellPoint, hcomb, hcw d, hold k hk]⟩
  · obtain ⟨k, hk, q, _, _, hsort, hql, hn⟩ := C13_checker_nested dim old new forest marked h c hc
    refine ⟨k, hk, fun w' hw' => ?_⟩
    obtain ⟨w1, hW1, hs1, hcomb⟩ := weights_reorder dim hsort.symm hql w' hw'
    obtain ⟨w, hwl, hwn, hws, hwc⟩ := hn w1 hW1.1 hW1.2
    exact ⟨w, ⟨hwl, hwn⟩, hws.trans hs1, fun d => by rw [← hold k hk, hwc d, hcomb, cellPoint]⟩

theorem Refines.refl (dim : Nat) (m : SMesh) : Refines dim m m :=
  ⟨fun _ _ => rfl, fun k hk w hw => ⟨k, hk, w, hw, rfl, fun _ => rfl⟩,
    fun c hc => ⟨c, hc, fun w' hw' => ⟨w', hw', rfl, fun _ => rfl⟩⟩⟩

/-- refinements compose -/
theorem C13_refines_trans (dim : Nat) (a b c : SMesh) (h1 : Refines dim a b) (h2 : Refines dim b c) :
    Refines dim a c := by
  refine ⟨fun i hi => ?_, fun k hk w hw => ?_, fun cc hcc => ?_⟩
  · have hb := (List.getElem?_eq_some_iff.1 ((h1.verts i hi).trans (List.getElem?_eq_getElem hi))).1
    rw [h2.verts i hb, h1.verts i hi]
  · obtain ⟨c1, hc1, w1, hW1, hs1, hp1⟩ := h1.cover k hk w hw
    obtain ⟨c2, hc2, w2, hW2, hs2, hp2⟩ := h2.cover c1 hc1 w1 hW1
    exact ⟨c2, hc2, w2, hW2, by rw [hs2, hs1], fun d => by rw [hp2 d, hp1 d]⟩
  · obtain ⟨k1, hk1, hn1⟩ := h2.nested cc hcc
    obtain ⟨k0, hk0, hn0⟩ := h1.nested k1 hk1
    refine ⟨k0, hk0, fun w' hw' => ?_⟩
    obtain ⟨w1, hW1, hs1, hp1⟩ := hn1 w' hw'
    obtain ⟨w0, hW0, hs0, hp0⟩ := hn0 w1 hW1
    exact ⟨w0, hW0, by rw [hs0, hs1], fun d => by rw [hp0 d, hp1 d]⟩

/-- any finite sequence of `Refines` steps (e.g. accepted by the checker: `C13_checker_refines`) -/
inductive History (dim : Nat) : SMesh → SMesh → Prop
  | start (m : SMesh) : History dim m m
  | step {a b c : SMesh} : History dim a b → Refines dim b c → History dim a c

/-- **the properties persist under arbitrarily long sequences of refinements**: after any history
    the last mesh `Refines` the first -/
theorem C13_histories (dim : Nat) (a b : SMesh) (h : History dim a b) : Refines dim a b := by
  induction h with
  | start => exact Refines.refl dim _
  | step _ hr ih => exact C13_refines_trans dim _ _ _ ih hr

/-- a one-step history certified by the checker -/
example : History 3
    { p := [[0, 0, 0], [2, 0, 0], [0, 1, 0], [0, 0, 1]], t := [[0, 1, 2, 3]] }
    { p := [[0, 0, 0], [2, 0, 0], [0, 1, 0], [0, 0, 1], [1, 0, 0]], t := [[3, 0, 2, 4], [2, 1, 3, 4]] } :=
  History.step (History.start _)
    (C13_checker_refines 3 _ _ [.node 0 1 4 (.leaf 0) (.leaf 1)] [0] (by decide +kernel))

end Skv.C13
