import SkfemVerif.Model.Helpers
import SkfemVerif.Model.Autodiff
import SkfemVerif.Gen.HelperFormulas
import SkfemVerif.Lemmas.Helpers
import SkfemVerif.Lemmas.Autodiff
import SkfemVerif.Props.C01
import Mathlib.LinearAlgebra.Matrix.NonsingularInverse
import Mathlib.LinearAlgebra.Matrix.Trace
/-
C20  Autodiff gives the true Jacobian; integrand helpers equal their definitions.

Part 1 (helpers).  `Gen/HelperFormulas.lean` is regenerated on every run from the live source of
`skfem/helpers.py` (terms `np_*`) and `skfem/autodiff/helpers.py` (`jax_*`) by the translator
`harness/skv/gens/helpers.py`: each term is the helper's formula at one trailing position for leading
size 2 or 3 (1 for the one-dimensional `div`).  The theorems state that each generated term is the
Mathlib definition over any commutative ring / field; a changed sign or index in the source changes
the term and breaks the `ring` proof.  Trusted: NumPy/JAX broadcasting over the trailing axes and
`einsum`'s ellipsis (searched), floating point.  `skfem.autodiff.helpers` has no `inv`, `cross`, `curl`.

Part 2 (assembly).  Model/Autodiff.lean models `NonlinearForm._assemble`.  JAX enters through the pair
`(f, df)` returned by `jax.linearize`; that `df` is the directional derivative (`IsJvpAt`) is a
HYPOTHESIS (the JAX contract: trusted, validated by the finite-difference search), proved only for the
polynomial integrand grammar (`C20_grammar_satisfies_contract`).  That an integrand acts pointwise in
(cell, quadrature point) is built into the type of `f`.
-/
-- Part 1 closes goals by `simp only […] <;> ring`.  Where `simp only` finishes alone the `ring` does not
-- run; it stays as the safety net for a regenerated term that is equal only up to ring identities.
set_option linter.unusedTactic false
set_option linter.unreachableTactic false
set_option linter.unusedSectionVars false
set_option linter.unnecessarySeqFocus false

namespace Skv.C20
open Skv.Gen.Helpers Matrix

section Helpers
variable {R : Type} [CommRing R] {F : Type} [Field F]

/-- `det` (both variants, sizes 2 and 3) is the determinant -/
theorem C20_det :
    (∀ A : Matrix (Fin 2) (Fin 2) R, np_det2 A = A.det ∧ jax_det2 A = A.det) ∧
    (∀ A : Matrix (Fin 3) (Fin 3) R, np_det3 A = A.det ∧ jax_det3 A = A.det) := by
  refine ⟨fun A => ⟨?_, ?_⟩, fun A => ⟨?_, ?_⟩⟩
  · rw [det_fin_two]; unfold np_det2; ring
  · rw [det_fin_two]; unfold jax_det2; ring
  · rw [det_fin_three]; unfold np_det3; ring
  · rw [det_fin_three]; unfold jax_det3; ring

/-- the generated inverse is `(det A)⁻¹ • adjugate A` entry by entry, which is how Mathlib defines
    `A⁻¹` — for singular `A` too, where both sides vanish (`x / 0 = 0`).  The generated term calls the
    generated `np_det2`: rewritten to `A.det` it is an atom for `ring`. -/
theorem np_inv2_eq_inv (A : Matrix (Fin 2) (Fin 2) F) : of (np_inv2 A) = A⁻¹ := by
  rw [inv_def, Ring.inverse_eq_inv', adjugate_fin_two]
  unfold np_inv2
  rw [(C20_det.1 A).1]
  apply vec2_ext <;> apply vec2_ext <;>
    simp only [Matrix.smul_apply, of_apply, cons_val, smul_eq_mul] <;> ring

theorem np_inv3_eq_inv (A : Matrix (Fin 3) (Fin 3) F) : of (np_inv3 A) = A⁻¹ := by
  rw [inv_def, Ring.inverse_eq_inv', adjugate_fin_three]
  unfold np_inv3
  rw [(C20_det.2 A).1]
  apply vec3_ext <;> apply vec3_ext <;>
    simp only [Matrix.smul_apply, of_apply, cons_val, smul_eq_mul] <;> ring

/-- `inv` (NumPy variant, 2×2): for `det A ≠ 0` a left and a right inverse, and Mathlib's `A⁻¹` -/
theorem C20_inv2 (A : Matrix (Fin 2) (Fin 2) F) (h : A.det ≠ 0) :
    of (np_inv2 A) * A = 1 ∧ A * of (np_inv2 A) = 1 ∧ of (np_inv2 A) = A⁻¹ := by
  rw [np_inv2_eq_inv]
  exact ⟨nonsing_inv_mul A (isUnit_iff_ne_zero.2 h), mul_nonsing_inv A (isUnit_iff_ne_zero.2 h), rfl⟩

/-- `inv` (NumPy variant, 3×3): the same -/
theorem C20_inv3 (A : Matrix (Fin 3) (Fin 3) F) (h : A.det ≠ 0) :
    of (np_inv3 A) * A = 1 ∧ A * of (np_inv3 A) = 1 ∧ of (np_inv3 A) = A⁻¹ := by
  rw [np_inv3_eq_inv]
  exact ⟨nonsing_inv_mul A (isUnit_iff_ne_zero.2 h), mul_nonsing_inv A (isUnit_iff_ne_zero.2 h), rfl⟩

/-- `cross`: Mathlib's `crossProduct` in 3-D; in 2-D the determinant of the matrix with rows `a, b` -/
theorem C20_cross :
    (∀ a b : Fin 3 → R, np_cross3 a b = crossProduct a b) ∧
    (∀ a b : Fin 2 → R, np_cross2 a b = (of ![a, b]).det) := by
  refine ⟨fun a b => ?_, fun a b => ?_⟩
  · rw [cross_apply]; apply vec3_ext <;> simp only [cons_val] <;> ring
  · rw [det_fin_two]; simp only [np_cross2, of_apply, cons_val] <;> ring

/-- `trace` is `Matrix.trace` -/
theorem C20_trace :
    (∀ T : Matrix (Fin 2) (Fin 2) R, np_trace2 T = T.trace ∧ jax_trace2 T = T.trace) ∧
    (∀ T : Matrix (Fin 3) (Fin 3) R, np_trace3 T = T.trace ∧ jax_trace3 T = T.trace) := by
  refine ⟨fun T => ⟨?_, ?_⟩, fun T => ⟨?_, ?_⟩⟩
  · rw [trace_fin_two]; unfold np_trace2; ring
  · rw [trace_fin_two]; unfold jax_trace2; ring
  · rw [trace_fin_three]; unfold np_trace3; ring
  · rw [trace_fin_three]; unfold jax_trace3; ring

/-- `transpose` is `Matrix.transpose` -/
theorem C20_transpose :
    (∀ T : Matrix (Fin 2) (Fin 2) R, of (np_transpose2 T) = Tᵀ ∧ of (jax_transpose2 T) = Tᵀ) ∧
    (∀ T : Matrix (Fin 3) (Fin 3) R, of (np_transpose3 T) = Tᵀ ∧ of (jax_transpose3 T) = Tᵀ) := by
  refine ⟨fun T => ⟨?_, ?_⟩, fun T => ⟨?_, ?_⟩⟩
  · apply vec2_ext <;> apply vec2_ext <;> simp only [transpose_apply] <;> ring
  · apply vec2_ext <;> apply vec2_ext <;> simp only [transpose_apply] <;> ring
  · apply vec3_ext <;> apply vec3_ext <;> simp only [transpose_apply] <;> ring
  · apply vec3_ext <;> apply vec3_ext <;> simp only [transpose_apply] <;> ring

/-- `eye(w, n)` is the diagonal matrix `w·I` -/
theorem C20_eye (w : R) :
    (of (np_eye2 w) = diagonal (fun _ => w) ∧ of (jax_eye2 w) = diagonal (fun _ => w)) ∧
    (of (np_eye3 w) = diagonal (fun _ => w) ∧ of (jax_eye3 w) = diagonal (fun _ => w)) := by
  refine ⟨⟨?_, ?_⟩, ⟨?_, ?_⟩⟩
  · apply vec2_ext <;> apply vec2_ext <;> simp only [diagonal_apply, Fin.reduceEq, if_true, if_false,
      Nat.cast_zero] <;> ring
  · apply vec2_ext <;> apply vec2_ext <;> simp only [diagonal_apply, Fin.reduceEq, if_true, if_false,
      Nat.cast_zero] <;> ring
  · apply vec3_ext <;> apply vec3_ext <;> simp only [diagonal_apply, Fin.reduceEq, if_true, if_false,
      Nat.cast_zero] <;> ring
  · apply vec3_ext <;> apply vec3_ext <;> simp only [diagonal_apply, Fin.reduceEq, if_true, if_false,
      Nat.cast_zero] <;> ring

/-- `sym_grad` is `½ (G + Gᵀ)` of the gradient -/
theorem C20_sym_grad :
    (∀ G : Matrix (Fin 2) (Fin 2) F, of (np_sym_grad2 G) = (1 / 2 : F) • (G + Gᵀ) ∧
      of (jax_sym_grad2 G) = (1 / 2 : F) • (G + Gᵀ)) ∧
    (∀ G : Matrix (Fin 3) (Fin 3) F, of (np_sym_grad3 G) = (1 / 2 : F) • (G + Gᵀ) ∧
      of (jax_sym_grad3 G) = (1 / 2 : F) • (G + Gᵀ)) := by
  refine ⟨fun G => ⟨?_, ?_⟩, fun G => ⟨?_, ?_⟩⟩
  · apply vec2_ext <;> apply vec2_ext <;> simp only [Matrix.smul_apply, Matrix.add_apply,
      transpose_apply, smul_eq_mul, Nat.cast_one, Nat.cast_ofNat] <;> ring
  · apply vec2_ext <;> apply vec2_ext <;> simp only [Matrix.smul_apply, Matrix.add_apply,
      transpose_apply, smul_eq_mul, Nat.cast_one, Nat.cast_ofNat] <;> ring
  · apply vec3_ext <;> apply vec3_ext <;> simp only [Matrix.smul_apply, Matrix.add_apply,
      transpose_apply, smul_eq_mul, Nat.cast_one, Nat.cast_ofNat] <;> ring
  · apply vec3_ext <;> apply vec3_ext <;> simp only [Matrix.smul_apply, Matrix.add_apply,
      transpose_apply, smul_eq_mul, Nat.cast_one, Nat.cast_ofNat] <;> ring

/-- `div` of a field given through its gradient is the trace of the gradient (1-D: the derivative) -/
theorem C20_div :
    (∀ G : Matrix (Fin 2) (Fin 2) R, np_div2 G = G.trace ∧ jax_div2 G = G.trace) ∧
    (∀ G : Matrix (Fin 3) (Fin 3) R, np_div3 G = G.trace ∧ jax_div3 G = G.trace) ∧
    (∀ g : Fin 1 → R, np_div1 g = g 0 ∧ jax_div1 g = g 0) := by
  refine ⟨fun G => ⟨?_, ?_⟩, fun G => ⟨?_, ?_⟩, fun g => ⟨rfl, rfl⟩⟩
  · rw [trace_fin_two]; unfold np_div2; ring
  · rw [trace_fin_two]; unfold jax_div2; ring
  · rw [trace_fin_three]; unfold np_div3; ring
  · rw [trace_fin_three]; unfold jax_div3; ring

/-- `curl` (NumPy variant): `∇× = Σ_j e_j × ∂_j` for a 3-D vector field; for a plane vector field the
    third component of the curl of its embedding; for a plane scalar `φ` the first two components of
    `∇×(0, 0, φ)` -/
theorem C20_curl :
    (∀ G : Matrix (Fin 3) (Fin 3) R, np_curl3 G = curl3 G) ∧
    (∀ G : Matrix (Fin 2) (Fin 2) R, np_curl2v G = curl3 (embedPlane G) 2) ∧
    (∀ g : Fin 2 → R, np_curl2s g = ![curl3 (embedScalar g) 0, curl3 (embedScalar g) 1]) := by
  refine ⟨fun G => ?_, fun G => ?_, fun g => ?_⟩
  · rw [curl3_apply]; apply vec3_ext <;> simp only [cons_val] <;> ring
  · rw [curl3_apply]; simp only [np_curl2v, embedPlane, of_apply, cons_val] <;> ring
  · rw [curl3_apply]; apply vec2_ext <;> simp only [embedScalar, of_apply, cons_val] <;> ring

/-- `dot` is `dotProduct` -/
theorem C20_dot :
    (∀ u v : Fin 2 → R, np_dot2 u v = u ⬝ᵥ v ∧ jax_dot2 u v = u ⬝ᵥ v) ∧
    (∀ u v : Fin 3 → R, np_dot3 u v = u ⬝ᵥ v ∧ jax_dot3 u v = u ⬝ᵥ v) := by
  refine ⟨fun u v => ⟨?_, ?_⟩, fun u v => ⟨?_, ?_⟩⟩
  · simp only [np_dot2, dotProduct, Fin.sum_univ_two] <;> ring
  · simp only [jax_dot2, dotProduct, Fin.sum_univ_two] <;> ring
  · simp only [np_dot3, dotProduct, Fin.sum_univ_three] <;> ring
  · simp only [jax_dot3, dotProduct, Fin.sum_univ_three] <;> ring

/-- `ddot` is the double contraction `Σ_ij u_ij v_ij` -/
theorem C20_ddot :
    (∀ u v : Matrix (Fin 2) (Fin 2) R, np_ddot2 u v = ∑ i, ∑ j, u i j * v i j ∧
      jax_ddot2 u v = ∑ i, ∑ j, u i j * v i j) ∧
    (∀ u v : Matrix (Fin 3) (Fin 3) R, np_ddot3 u v = ∑ i, ∑ j, u i j * v i j ∧
      jax_ddot3 u v = ∑ i, ∑ j, u i j * v i j) := by
  refine ⟨fun u v => ⟨?_, ?_⟩, fun u v => ⟨?_, ?_⟩⟩
  · simp only [np_ddot2, Fin.sum_univ_two] <;> ring
  · simp only [jax_ddot2, Fin.sum_univ_two] <;> ring
  · simp only [np_ddot3, Fin.sum_univ_three] <;> ring
  · simp only [jax_ddot3, Fin.sum_univ_three] <;> ring

/-- `dddot` is the triple contraction `Σ_ijk u_ijk v_ijk` -/
theorem C20_dddot :
    (∀ u v : Fin 2 → Fin 2 → Fin 2 → R, np_dddot2 u v = ∑ i, ∑ j, ∑ k, u i j k * v i j k ∧
      jax_dddot2 u v = ∑ i, ∑ j, ∑ k, u i j k * v i j k) ∧
    (∀ u v : Fin 3 → Fin 3 → Fin 3 → R, np_dddot3 u v = ∑ i, ∑ j, ∑ k, u i j k * v i j k ∧
      jax_dddot3 u v = ∑ i, ∑ j, ∑ k, u i j k * v i j k) := by
  refine ⟨fun u v => ⟨?_, ?_⟩, fun u v => ⟨?_, ?_⟩⟩
  · simp only [np_dddot2, Fin.sum_univ_two] <;> ring
  · simp only [jax_dddot2, Fin.sum_univ_two] <;> ring
  · simp only [np_dddot3, Fin.sum_univ_three] <;> ring
  · simp only [jax_dddot3, Fin.sum_univ_three] <;> ring

/-- `prod` is the outer product (`vecMulVec`), with three arguments `(u ⊗ v ⊗ w)_ijk = u_i v_j w_k` -/
theorem C20_prod :
    (∀ u v : Fin 2 → R, of (np_prod2 u v) = vecMulVec u v ∧ of (jax_prod2 u v) = vecMulVec u v) ∧
    (∀ u v : Fin 3 → R, of (np_prod3 u v) = vecMulVec u v ∧ of (jax_prod3 u v) = vecMulVec u v) ∧
    (∀ (u v w : Fin 2 → R) (i j k : Fin 2), np_tprod2 u v w i j k = u i * v j * w k ∧
      jax_tprod2 u v w i j k = u i * v j * w k) ∧
    (∀ (u v w : Fin 3 → R) (i j k : Fin 3), np_tprod3 u v w i j k = u i * v j * w k ∧
      jax_tprod3 u v w i j k = u i * v j * w k) := by
  refine ⟨fun u v => ⟨?_, ?_⟩, fun u v => ⟨?_, ?_⟩, fun u v w i j k => ⟨?_, ?_⟩,
    fun u v w i j k => ⟨?_, ?_⟩⟩
  · apply vec2_ext <;> apply vec2_ext <;> simp only [vecMulVec_apply] <;> ring
  · apply vec2_ext <;> apply vec2_ext <;> simp only [vecMulVec_apply] <;> ring
  · apply vec3_ext <;> apply vec3_ext <;> simp only [vecMulVec_apply] <;> ring
  · apply vec3_ext <;> apply vec3_ext <;> simp only [vecMulVec_apply] <;> ring
  · exact congr_fun₃ (g := fun i j k => u i * v j * w k)
      (by apply vec2_ext <;> apply vec2_ext <;> apply vec2_ext <;> ring) i j k
  · exact congr_fun₃ (g := fun i j k => u i * v j * w k)
      (by apply vec2_ext <;> apply vec2_ext <;> apply vec2_ext <;> ring) i j k
  · exact congr_fun₃ (g := fun i j k => u i * v j * w k)
      (by apply vec3_ext <;> apply vec3_ext <;> apply vec3_ext <;> ring) i j k
  · exact congr_fun₃ (g := fun i j k => u i * v j * w k)
      (by apply vec3_ext <;> apply vec3_ext <;> apply vec3_ext <;> ring) i j k

/-- `mul` is the matrix-vector product `mulVec` and (matrix second argument) the matrix product;
    the NumPy variant reaches the latter through einsum's ellipsis broadcasting -/
theorem C20_mul :
    (∀ (A : Matrix (Fin 2) (Fin 2) R) (x : Fin 2 → R), np_mul2 A x = A *ᵥ x ∧ jax_mul2 A x = A *ᵥ x) ∧
    (∀ (A : Matrix (Fin 3) (Fin 3) R) (x : Fin 3 → R), np_mul3 A x = A *ᵥ x ∧ jax_mul3 A x = A *ᵥ x) ∧
    (∀ A B : Matrix (Fin 2) (Fin 2) R, of (np_mulm2 A B) = A * B ∧ of (jax_mulm2 A B) = A * B) ∧
    (∀ A B : Matrix (Fin 3) (Fin 3) R, of (np_mulm3 A B) = A * B ∧ of (jax_mulm3 A B) = A * B) := by
  refine ⟨fun A x => ⟨?_, ?_⟩, fun A x => ⟨?_, ?_⟩, fun A B => ⟨?_, ?_⟩, fun A B => ⟨?_, ?_⟩⟩
  · apply vec2_ext <;> simp only [mulVec, dotProduct, Fin.sum_univ_two] <;> ring
  · apply vec2_ext <;> simp only [mulVec, dotProduct, Fin.sum_univ_two] <;> ring
  · apply vec3_ext <;> simp only [mulVec, dotProduct, Fin.sum_univ_three] <;> ring
  · apply vec3_ext <;> simp only [mulVec, dotProduct, Fin.sum_univ_three] <;> ring
  · apply vec2_ext <;> apply vec2_ext <;> simp only [mul_apply, Fin.sum_univ_two] <;> ring
  · apply vec2_ext <;> apply vec2_ext <;> simp only [mul_apply, Fin.sum_univ_two] <;> ring
  · apply vec3_ext <;> apply vec3_ext <;> simp only [mul_apply, Fin.sum_univ_three] <;> ring
  · apply vec3_ext <;> apply vec3_ext <;> simp only [mul_apply, Fin.sum_univ_three] <;> ring


/-- **NumPy variant = JAX variant** for every helper both modules offer and a term is generated
    for (sizes 2 and 3; not the accessors `grad`, `dd`): both equal the same Mathlib object -/
theorem C20_variants_agree :
    (∀ A : Matrix (Fin 2) (Fin 2) R, np_det2 A = jax_det2 A ∧ np_trace2 A = jax_trace2 A ∧
      np_div2 A = jax_div2 A ∧ np_transpose2 A = jax_transpose2 A) ∧
    (∀ A : Matrix (Fin 3) (Fin 3) R, np_det3 A = jax_det3 A ∧ np_trace3 A = jax_trace3 A ∧
      np_div3 A = jax_div3 A ∧ np_transpose3 A = jax_transpose3 A) ∧
    (∀ w : R, np_eye2 w = jax_eye2 w ∧ np_eye3 w = jax_eye3 w) ∧
    (∀ G : Matrix (Fin 2) (Fin 2) F, np_sym_grad2 G = jax_sym_grad2 G) ∧
    (∀ G : Matrix (Fin 3) (Fin 3) F, np_sym_grad3 G = jax_sym_grad3 G) ∧
    (∀ u v : Fin 2 → R, np_dot2 u v = jax_dot2 u v ∧ np_prod2 u v = jax_prod2 u v) ∧
    (∀ u v : Fin 3 → R, np_dot3 u v = jax_dot3 u v ∧ np_prod3 u v = jax_prod3 u v) ∧
    (∀ u v : Matrix (Fin 2) (Fin 2) R, np_ddot2 u v = jax_ddot2 u v ∧ np_mulm2 u v = jax_mulm2 u v) ∧
    (∀ u v : Matrix (Fin 3) (Fin 3) R, np_ddot3 u v = jax_ddot3 u v ∧ np_mulm3 u v = jax_mulm3 u v) ∧
    (∀ u v : Fin 2 → Fin 2 → Fin 2 → R, np_dddot2 u v = jax_dddot2 u v) ∧
    (∀ u v : Fin 3 → Fin 3 → Fin 3 → R, np_dddot3 u v = jax_dddot3 u v) ∧
    (∀ u v w : Fin 2 → R, np_tprod2 u v w = jax_tprod2 u v w) ∧
    (∀ u v w : Fin 3 → R, np_tprod3 u v w = jax_tprod3 u v w) ∧
    (∀ (A : Matrix (Fin 2) (Fin 2) R) (x : Fin 2 → R), np_mul2 A x = jax_mul2 A x) ∧
    (∀ (A : Matrix (Fin 3) (Fin 3) R) (x : Fin 3 → R), np_mul3 A x = jax_mul3 A x) :=
  ⟨fun A => ⟨eq_of_eq_both (C20_det.1 A), eq_of_eq_both (C20_trace.1 A), eq_of_eq_both (C20_div.1 A),
      of.injective (eq_of_eq_both (C20_transpose.1 A))⟩,
    fun A => ⟨eq_of_eq_both (C20_det.2 A), eq_of_eq_both (C20_trace.2 A),
      eq_of_eq_both (C20_div.2.1 A), of.injective (eq_of_eq_both (C20_transpose.2 A))⟩,
    fun w => ⟨of.injective (eq_of_eq_both (C20_eye w).1), of.injective (eq_of_eq_both (C20_eye w).2)⟩,
    fun G => of.injective (eq_of_eq_both (C20_sym_grad.1 G)),
    fun G => of.injective (eq_of_eq_both (C20_sym_grad.2 G)),
    fun u v => ⟨eq_of_eq_both (C20_dot.1 u v), of.injective (eq_of_eq_both (C20_prod.1 u v))⟩,
    fun u v => ⟨eq_of_eq_both (C20_dot.2 u v), of.injective (eq_of_eq_both (C20_prod.2.1 u v))⟩,
    fun u v => ⟨eq_of_eq_both (C20_ddot.1 u v), of.injective (eq_of_eq_both (C20_mul.2.2.1 u v))⟩,
    fun u v => ⟨eq_of_eq_both (C20_ddot.2 u v), of.injective (eq_of_eq_both (C20_mul.2.2.2 u v))⟩,
    fun u v => eq_of_eq_both (C20_dddot.1 u v),
    fun u v => eq_of_eq_both (C20_dddot.2 u v),
    fun u v w => funext₃ fun i j k => eq_of_eq_both (C20_prod.2.2.1 u v w i j k),
    fun u v w => funext₃ fun i j k => eq_of_eq_both (C20_prod.2.2.2 u v w i j k),
    fun A x => eq_of_eq_both (C20_mul.1 A x),
    fun A x => eq_of_eq_both (C20_mul.2.1 A x)⟩

example : (1 : Matrix (Fin 3) (Fin 3) ℚ).det ≠ 0 := by simp

end Helpers

/-- F3: the JAX 3×3 determinant of the pinned tree is off by `2·A₀₁A₁₂A₂₀` -/
theorem C20_jaxdet_old_defect {R : Type} [CommRing R] (A : Matrix (Fin 3) (Fin 3) R) :
    jaxDet3Old A = A.det - 2 * (A 0 1 * A 1 2 * A 2 0) := by
  rw [Matrix.det_fin_three]; unfold jaxDet3Old; ring

/-- a witness, replayed on the live code by the search -/
theorem C20_jaxdet_old_counterexample :
    jaxDet3Old (!![1, 1, 0; 0, 1, 1; 1, 0, 1] : Matrix (Fin 3) (Fin 3) ℤ)
      ≠ (!![1, 1, 0; 0, 1, 1; 1, 0, 1] : Matrix (Fin 3) (Fin 3) ℤ).det := by
  rw [C20_jaxdet_old_defect, Ne, sub_eq_self]
  decide


section Bookkeeping
variable {K : Type} [CommRing K]

/-- **COO layout** of `NonlinearForm._assemble`: flat position `nt * (Nb * j + i) + k` of
    `rows / cols / data.flatten('C')` holds row = TEST dof, column = TRIAL dof and the value
    `data[j, i, k] = Σ_q DF_i(x_h)[φ_j] dx`; flat position `nt * i + k` of the right-hand side
    holds the TEST dof and `−Σ_q y_i dx` (the residual sign). -/
theorem C20_jacobian_bookkeeping (Nb nt nq : Nat)
    (f : Sample K → Sample K → Sample K → K) (df : Sample K → Sample K → Sample K → Sample K → K)
    (b : BasisData K) (w : Nat → Nat → Sample K) (dx : Nat → Nat → K)
    (dofs : Nat → Nat → Nat) (x : Nat → K) (j i k : Nat) (hj : j < Nb) (hi : i < Nb) (hk : k < nt) :
    (nlJacTriplets Nb nt nq df b w dx dofs x)[flatSlot Nb nt i j k]?
        = some (dofs i k, dofs j k, ∑ q ∈ Finset.range nq,
            df (interp Nb x dofs b k q) (b j k q) (b i k q) (w k q) * dx k q) ∧
    (nlResPairs Nb nt nq f b w dx dofs x)[nt * i + k]?
        = some (dofs i k, -∑ q ∈ Finset.range nq,
            f (interp Nb x dofs b k q) (b i k q) (w k q) * dx k q) ∧
    (nlJacTriplets Nb nt nq df b w dx dofs x).length = Nb * Nb * nt ∧
    (nlResPairs Nb nt nq f b w dx dofs x).length = Nb * nt := by
  simp only [← sum_map_range]
  exact ⟨getElem?_flatMap_flatMap_map_range Nb Nb nt _ j i k hj hi hk,
    getElem?_flatMap_map_range Nb nt _ i k hi hk,
    length_flatMap_flatMap_map_range Nb Nb nt _,
    length_flatMap_range Nb nt _ (fun i _ => by simp)⟩

/-- **agreement with the hand-linearised bilinear form**: the Jacobian triplets are the C01
    triplets (`BilinearForm._assemble`) of the integrand `(δu, v, w') ↦ DF(prev; δu, v, w)` where the
    interpolated linearisation point `prev = x_h` travels as an extra parameter field — the way a
    hand-linearised `BilinearForm` receives `w['prev']` -/
theorem C20_jacobian_is_assembly_of_linearisation (Nb nt nq : Nat)
    (df : Sample K → Sample K → Sample K → Sample K → K)
    (b : BasisData K) (w : Nat → Nat → Sample K) (dx : Nat → Nat → K)
    (dofs : Nat → Nat → Nat) (x : Nat → K) :
    nlJacTriplets Nb nt nq df b w dx dofs x
      = bilinearTriplets Nb Nb nt nq
          (fun du v s => df (C01.unpack 0 s) du v (C01.unpack 2 s)) b b
          (fun k q => C01.pack3 (interp Nb x dofs b k q) 0 (w k q)) dx dofs dofs := by
  unfold nlJacTriplets bilinearTriplets kernelBil
  simp only [C01.unpack_zero_pack3, C01.unpack_two_pack3]

/-- **the vector is minus the linear form of the integrand at the linearisation point**:
    the right-hand side pairs are the C01 pairs (`LinearForm._assemble`) of
    `(v, w') ↦ f(prev, v, w)`, negated. -/
theorem C20_residual_is_neg_linear_form (Nb nt nq : Nat)
    (f : Sample K → Sample K → Sample K → K)
    (b : BasisData K) (w : Nat → Nat → Sample K) (dx : Nat → Nat → K)
    (dofs : Nat → Nat → Nat) (x : Nat → K) :
    nlResPairs Nb nt nq f b w dx dofs x
      = (linearPairs Nb nt nq (fun v s => f (C01.unpack 0 s) v (C01.unpack 2 s)) b
          (fun k q => C01.pack3 (interp Nb x dofs b k q) 0 (w k q)) dx dofs).map
            (fun p => (p.1, -p.2)) := by
  unfold nlResPairs linearPairs kernelLin
  simp only [C01.unpack_zero_pack3, C01.unpack_two_pack3, List.map_flatMap, List.map_map]
  rfl

end Bookkeeping

section Derivative
variable {𝕜 : Type} [NontriviallyNormedField 𝕜]

/-- the weak residual as a function of the coefficient vector: component `r` is
    `F_r(x) = Σ_{(i,k) : dofs i k = r} Σ_q f(x_h(k,q), φ_i(k,q), w(k,q)) dx(k,q)` -/
def residual {K : Type} [CommRing K] (Nb nt nq : Nat) (f : Sample K → Sample K → Sample K → K)
    (b : BasisData K) (w : Nat → Nat → Sample K) (dx : Nat → Nat → K)
    (dofs : Nat → Nat → Nat) (x : Nat → K) (r : Nat) : K :=
  ∑ i ∈ Finset.range Nb, ∑ k ∈ Finset.range nt,
    if dofs i k = r then
      ∑ q ∈ Finset.range nq, f (interp Nb x dofs b k q) (b i k q) (w k q) * dx k q
    else 0

/-- **JAX contract** at one sample point `(x, v, w)`: the linear map `DF` returned by
    `jax.linearize(λU. form(U, v, w), x)` is the directional derivative of the integrand in the
    unknown (`jvp`), linear in the direction.  A derivative along lines plus additivity and
    homogeneity, not `HasFDerivAt`: a sample `Nat → 𝕜` lives in a space without a norm. -/
structure IsJvpAt (f : Sample 𝕜 → Sample 𝕜 → Sample 𝕜 → 𝕜)
    (df : Sample 𝕜 → Sample 𝕜 → Sample 𝕜 → Sample 𝕜 → 𝕜) (x v w : Sample 𝕜) : Prop where
  deriv : ∀ h, HasDerivAt (fun t : 𝕜 => f (x + t • h) v w) (df x h v w) 0
  add : ∀ h h', df x (h + h') v w = df x h v w + df x h' v w
  smul : ∀ (c : 𝕜) h, df x (c • h) v w = c * df x h v w

/-- **the assembled vector is minus the residual**: entry `r` of the right-hand side returned by
    `NonlinearForm.assemble` is `−F_r(x)` -/
theorem C20_residual_vector {K : Type} [CommRing K] (Nb nt nq : Nat)
    (f : Sample K → Sample K → Sample K → K)
    (b : BasisData K) (w : Nat → Nat → Sample K) (dx : Nat → Nat → K)
    (dofs : Nat → Nat → Nat) (x : Nat → K) (r : Nat) :
    denseVecEntry (nlResPairs Nb nt nq f b w dx dofs x) r
      = -residual Nb nt nq f b w dx dofs x r := by
  rw [C20_residual_is_neg_linear_form, denseVecEntry_map_neg, denseVecEntry_linearPairs]
  unfold residual
  simp only [kernelLin_eq_sum, C01.unpack_zero_pack3, C01.unpack_two_pack3]

/-- **the assembled matrix is the derivative of the residual with respect to the coefficient vector**
    (chain rule through the linear interpolation): for every direction `e`, `t ↦ F_r(x + t e)` has at
    `t = 0` the derivative `(J e)_r`, with `J e` computed from the COO triplets as `COOData.dot` does.
    `hjax`: the JAX contract at the sample points the assembly visits. -/
theorem C20_jacobian_is_derivative (Nb nt nq : Nat)
    (f : Sample 𝕜 → Sample 𝕜 → Sample 𝕜 → 𝕜)
    (df : Sample 𝕜 → Sample 𝕜 → Sample 𝕜 → Sample 𝕜 → 𝕜)
    (b : BasisData 𝕜) (w : Nat → Nat → Sample 𝕜) (dx : Nat → Nat → 𝕜)
    (dofs : Nat → Nat → Nat) (x e : Nat → 𝕜)
    (hjax : ∀ i < Nb, ∀ k < nt, ∀ q < nq,
      IsJvpAt f df (interp Nb x dofs b k q) (b i k q) (w k q)) (r : Nat) :
    HasDerivAt (fun t : 𝕜 => residual Nb nt nq f b w dx dofs (x + t • e) r)
      (cooDot (nlJacTriplets Nb nt nq df b w dx dofs x) e r) 0 := by
  rw [C20_jacobian_is_assembly_of_linearisation, cooDot_bilinearTriplets]
  simp only [kernelBil_eq_sum, C01.unpack_zero_pack3, C01.unpack_two_pack3]
  rw [jacobian_sum_reorder]
  unfold residual
  refine HasDerivAt.fun_sum (fun i hi => HasDerivAt.fun_sum (fun k hk => ?_))
  split
  · refine HasDerivAt.fun_sum (fun q hq => ?_)
    have hc := hjax i (Finset.mem_range.1 hi) k (Finset.mem_range.1 hk) q (Finset.mem_range.1 hq)
    exact (hasDerivAt_comp_interp e (fun a => f a (b i k q) (w k q)) hc.deriv hc.add
      hc.smul).mul_const (dx k q)
  · exact hasDerivAt_const _ _

/-- entrywise: `J[r, c] = ∂F_r/∂x_c` (dense entry = sum of the duplicate triplets, as
    `coo_matrix` sums them) -/
theorem C20_jacobian_entry_is_partial_derivative (Nb nt nq : Nat)
    (f : Sample 𝕜 → Sample 𝕜 → Sample 𝕜 → 𝕜)
    (df : Sample 𝕜 → Sample 𝕜 → Sample 𝕜 → Sample 𝕜 → 𝕜)
    (b : BasisData 𝕜) (w : Nat → Nat → Sample 𝕜) (dx : Nat → Nat → 𝕜)
    (dofs : Nat → Nat → Nat) (x : Nat → 𝕜)
    (hjax : ∀ i < Nb, ∀ k < nt, ∀ q < nq,
      IsJvpAt f df (interp Nb x dofs b k q) (b i k q) (w k q)) (r c : Nat) :
    HasDerivAt (fun t : 𝕜 => residual Nb nt nq f b w dx dofs (x + t • Pi.single c 1) r)
      (denseEntry (nlJacTriplets Nb nt nq df b w dx dofs x) r c) 0 := by
  rw [← cooDot_single]
  exact C20_jacobian_is_derivative Nb nt nq f df b w dx dofs x _ hjax r

/-- `J e` from the triplets is the dense matrix-vector product (matrix of shape `N × N`, all DOF
    numbers `< N`) -/
theorem C20_jacobian_matvec {K : Type} [CommRing K] (Nb nt nq N : Nat)
    (df : Sample K → Sample K → Sample K → Sample K → K)
    (b : BasisData K) (w : Nat → Nat → Sample K) (dx : Nat → Nat → K)
    (dofs : Nat → Nat → Nat) (x e : Nat → K)
    (hN : ∀ j < Nb, ∀ k < nt, dofs j k < N) (r : Nat) :
    cooDot (nlJacTriplets Nb nt nq df b w dx dofs x) e r
      = ∑ c ∈ Finset.range N, denseEntry (nlJacTriplets Nb nt nq df b w dx dofs x) r c * e c := by
  rw [C20_jacobian_is_assembly_of_linearisation]
  exact cooDot_eq_dense _ N (fun t ht => (mem_bilinearTriplets_lt Nb Nb nt nq N N _ b b _ dx dofs
    dofs hN hN t ht).2) e r

/-- the polynomial integrand grammar with its formal (Leibniz) derivative meets the JAX contract -/
theorem C20_grammar_satisfies_contract (ts : List (NLTerm 𝕜)) (x v w : Sample 𝕜) :
    IsJvpAt (evalNL ts) (evalNLDeriv ts) x v w :=
  ⟨fun h => hasDerivAt_evalNL ts x h v w, fun h h' => evalNLDeriv_add ts x h h' v w,
    fun c h => evalNLDeriv_smul ts x h v w c⟩

/-- hence unconditional for the polynomial grammar, the model the driver runs (`nl.assemble`) -/
theorem C20_polynomial_jacobian (Nb nt nq : Nat) (ts : List (NLTerm 𝕜))
    (b : BasisData 𝕜) (w : Nat → Nat → Sample 𝕜) (dx : Nat → Nat → 𝕜)
    (dofs : Nat → Nat → Nat) (x e : Nat → 𝕜) (r : Nat) :
    HasDerivAt (fun t : 𝕜 => residual Nb nt nq (evalNL ts) b w dx dofs (x + t • e) r)
      (cooDot (nlJacTriplets Nb nt nq (evalNLDeriv ts) b w dx dofs x) e r) 0 :=
  C20_jacobian_is_derivative Nb nt nq _ _ b w dx dofs x e
    (fun _ _ _ _ _ _ => C20_grammar_satisfies_contract ts _ _ _) r

/-- an integrand that is affine in the unknown: `f(u, v, w) = a(u, v, w) + l(v, w)` with `a`
    bilinear has the derivative `a(h, v, w)`, whatever the linearisation point -/
theorem C20_affine_derivative (a : Sample 𝕜 → Sample 𝕜 → Sample 𝕜 → 𝕜) (ha : C01.IsBilinear a)
    (l : Sample 𝕜 → Sample 𝕜 → 𝕜) (x h v w : Sample 𝕜) :
    HasDerivAt (fun t : 𝕜 => a (x + t • h) v w + l v w) (a h v w) 0 := by
  simp only [ha.add_left, ha.smul_left]
  exact ((hasDerivAt_mul_const (a h v w)).const_add (a x v w)).add_const (l v w)

/-- `hjax` of `C20_linear_reduces` is satisfiable: for bilinear `a` the pair `(a + l, (x, h) ↦ a h)`
    meets the JAX contract -/
theorem C20_affine_contract (a : Sample 𝕜 → Sample 𝕜 → Sample 𝕜 → 𝕜) (ha : C01.IsBilinear a)
    (l : Sample 𝕜 → Sample 𝕜 → 𝕜) (x v w : Sample 𝕜) :
    IsJvpAt (fun u v w => a u v w + l v w) (fun _ h v w => a h v w) x v w :=
  ⟨fun h => C20_affine_derivative a ha l x h v w, fun h h' => ha.add_left h h' v w,
    fun c h => ha.smul_left c h v w⟩

/-- **integrands linear (affine) in the unknown reduce to ordinary assembly**: under the JAX contract
    the Jacobian triplets are the C01 triplets of the bilinear part, at every linearisation point -/
theorem C20_linear_reduces (Nb nt nq : Nat)
    (a : Sample 𝕜 → Sample 𝕜 → Sample 𝕜 → 𝕜) (ha : C01.IsBilinear a)
    (l : Sample 𝕜 → Sample 𝕜 → 𝕜)
    (df : Sample 𝕜 → Sample 𝕜 → Sample 𝕜 → Sample 𝕜 → 𝕜)
    (hjax : ∀ x v w, IsJvpAt (fun u v w => a u v w + l v w) df x v w)
    (b : BasisData 𝕜) (w : Nat → Nat → Sample 𝕜) (dx : Nat → Nat → 𝕜)
    (dofs : Nat → Nat → Nat) (x : Nat → 𝕜) :
    nlJacTriplets Nb nt nq df b w dx dofs x = bilinearTriplets Nb Nb nt nq a b b w dx dofs dofs := by
  have hdf : ∀ x h v w, df x h v w = a h v w := fun x h v w =>
    HasDerivAt.unique ((hjax x v w).deriv h) (C20_affine_derivative a ha l x h v w)
  unfold nlJacTriplets bilinearTriplets kernelBil
  simp only [hdf]

/-- … and the vector is `−(A x + b_l)` with `A`, `b_l` the ordinary matrix and vector (so one Newton
    step `x + A⁻¹ rhs` solves the linear problem) -/
theorem C20_affine_residual {K : Type} [CommRing K] (Nb nt nq : Nat)
    (a : Sample K → Sample K → Sample K → K) (ha : C01.IsBilinear a)
    (l : Sample K → Sample K → K)
    (b : BasisData K) (w : Nat → Nat → Sample K) (dx : Nat → Nat → K)
    (dofs : Nat → Nat → Nat) (x : Nat → K) (r : Nat) :
    denseVecEntry (nlResPairs Nb nt nq (fun u v w => a u v w + l v w) b w dx dofs x) r
      = -(cooDot (bilinearTriplets Nb Nb nt nq a b b w dx dofs dofs) x r
          + denseVecEntry (linearPairs Nb nt nq l b w dx dofs) r) := by
  rw [C20_residual_vector, cooDot_bilinearTriplets, denseVecEntry_linearPairs]
  simp only [kernelBil_eq_sum, kernelLin_eq_sum]
  rw [jacobian_sum_reorder]
  unfold residual
  simp only [interp_eq_sum_smul, ha.map_sum_left, add_mul, Finset.sum_add_distrib, ite_add_zero]

/-- the energy `E(x) = Σ_k Σ_q W(x_h, w) dx` of `NonlinearForm(hessian=True)` -/
def energy {K : Type} [CommRing K] (Nb nt nq : Nat) (W : Sample K → Sample K → K)
    (b : BasisData K) (w : Nat → Nat → Sample K) (dx : Nat → Nat → K)
    (dofs : Nat → Nat → Nat) (x : Nat → K) : K :=
  ∑ k ∈ Finset.range nt, ∑ q ∈ Finset.range nq, W (interp Nb x dofs b k q) (w k q) * dx k q

/-- `NonlinearForm(hessian=True)`: the integrand is an energy density `W`, `y = jvp(W)(x)[v_i]`; the
    assembled vector is minus the gradient of the energy (`e · rhs = −dE(x)[e]`).  For the matrix:
    `C20_jacobian_is_derivative` with `f := dW`. -/
theorem C20_hessian_mode_gradient (Nb nt nq : Nat) (W : Sample 𝕜 → Sample 𝕜 → 𝕜)
    (dW : Sample 𝕜 → Sample 𝕜 → Sample 𝕜 → 𝕜)
    (b : BasisData 𝕜) (w : Nat → Nat → Sample 𝕜) (dx : Nat → Nat → 𝕜)
    (dofs : Nat → Nat → Nat) (x e : Nat → 𝕜)
    (hjvp : ∀ k < nt, ∀ q < nq,
      (∀ h, HasDerivAt (fun t : 𝕜 => W (interp Nb x dofs b k q + t • h) (w k q))
        (dW (interp Nb x dofs b k q) h (w k q)) 0) ∧
      (∀ h h', dW (interp Nb x dofs b k q) (h + h') (w k q)
        = dW (interp Nb x dofs b k q) h (w k q) + dW (interp Nb x dofs b k q) h' (w k q)) ∧
      (∀ (c : 𝕜) h, dW (interp Nb x dofs b k q) (c • h) (w k q)
        = c * dW (interp Nb x dofs b k q) h (w k q))) :
    HasDerivAt (fun t : 𝕜 => energy Nb nt nq W b w dx dofs (x + t • e))
      (-actionLin (nlResPairs Nb nt nq dW b w dx dofs x) e) 0 := by
  rw [C20_residual_is_neg_linear_form, actionLin_map_neg, neg_neg, actionLin_linearPairs]
  simp only [kernelLin_eq_sum, C01.unpack_zero_pack3, C01.unpack_two_pack3]
  rw [linear_sum_reorder]
  unfold energy
  refine HasDerivAt.fun_sum (fun k hk => HasDerivAt.fun_sum (fun q hq => ?_))
  obtain ⟨h1, h2, h3⟩ := hjvp k (Finset.mem_range.1 hk) q (Finset.mem_range.1 hq)
  exact (hasDerivAt_comp_interp e (fun a => W a (w k q)) h1 h2 h3).mul_const (dx k q)


end Derivative

/-- `hjvp` of `C20_hessian_mode_gradient` for polynomial energies -/
example {𝕜 : Type} [NontriviallyNormedField 𝕜] (ts : List (NLTerm 𝕜)) (x w : Sample 𝕜) :
    (∀ h, HasDerivAt (fun t : 𝕜 => evalNL ts (x + t • h) (fun _ => 1) w)
      (evalNLDeriv ts x h (fun _ => 1) w) 0) ∧
    (∀ h h', evalNLDeriv ts x (h + h') (fun _ => 1) w
      = evalNLDeriv ts x h (fun _ => 1) w + evalNLDeriv ts x h' (fun _ => 1) w) ∧
    (∀ (c : 𝕜) h, evalNLDeriv ts x (c • h) (fun _ => 1) w = c * evalNLDeriv ts x h (fun _ => 1) w) :=
  have c := C20_grammar_satisfies_contract ts x (fun _ => 1) w
  ⟨c.deriv, c.add, c.smul⟩

/-- `f = u² v`, one cell, one point, `x = 3` -/
example : (nlJacTriplets 1 1 1 (evalNLDeriv [⟨(1 : Rat), [0, 0], 0, 0⟩]) (fun _ _ _ _ => 1)
    (fun _ _ _ => 1) (fun _ _ => 1) (fun _ _ => 0) (fun _ => 3)) = [(0, 0, 6)] := by decide +kernel

example : (nlResPairs 1 1 1 (evalNL [⟨(1 : Rat), [0, 0], 0, 0⟩]) (fun _ _ _ _ => 1)
    (fun _ _ _ => 1) (fun _ _ => 1) (fun _ _ => 0) (fun _ => 3)) = [(0, -9)] := by decide +kernel


end Skv.C20
