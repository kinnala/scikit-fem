import SkfemVerif.Model.Quadrature
import SkfemVerif.Gen.QuadFacts
import SkfemVerif.Lemmas.Quadrature
import Mathlib.Algebra.Order.Field.Rat
import Mathlib.Tactic.Ring
/-
C08  Quadrature rules deliver their advertised degree on every reference cell.

Model: Model/Quadrature.lean.  The tables `Gen.triTable`, `Gen.tetTable`, `Gen.lineTable` are
REGENERATED from `skfem/quadrature.py` on every run (exact value of every double) together with
the kernel-checked facts `Gen.tri_n_ok`, `Gen.tet_n_ok`, `Gen.line_k_ok` (`decide +kernel`):
all monomials up to the advertised degree within `2^-40`, weights sum to the measure, nodes in
the closed cell.  This file lifts those finite facts to ALL polynomials and ALL orders.

The statements are written with the rational reading of a scaled-integer rule from
`Lemmas/Quadrature.lean`: `applyFun r f` (the rule applied to a function of the node coordinates
`nodeQ`), `monoQ`, `QPoly`, `evalPoly`, `l1`, `exactQ`, `exactPolySimplex`, `exactPolyBox`.  In the names of
this file `_mono` means "on a monomial".
-/
namespace Skv.C08

/-- the integer sum computed by the checker IS the rule applied to the monomial -/
theorem C08_applyMono_sound (r : IRule) (e : List Nat)
    (hdim : ∀ p ∈ r.pts, p.1.length = e.length) :
    applyFun r (fun x => monoQ x e) = (r.applyMono e : ℚ) / 2 ^ (r.SW + r.S * e.sum) :=
  sum_pts_sound r.S r.SW e r.pts hdim

/-- soundness of the reflection check for one monomial -/
theorem C08_okMono_sound (r : IRule) (e : List Nat) (ex : Nat × Nat) (tol : Nat)
    (hden : 0 < ex.2) (hdim : ∀ p ∈ r.pts, p.1.length = e.length)
    (h : okMono r e ex tol = true) :
    |applyFun r (fun x => monoQ x e) - exactQ ex| ≤ 1 / 2 ^ tol := by
  rw [C08_applyMono_sound r e hdim]
  unfold okMono at h
  exact abs_sub_le_of_int _ _ _ _ _ hden (of_decide_eq_true h)

theorem C08_mem_boxExponents (d n : Nat) (e : List Nat) :
    e ∈ boxExponents d n ↔ e.length = d ∧ ∀ a ∈ e, a ≤ n := by
  induction d generalizing e with
  | zero =>
    rw [boxExponents, List.mem_singleton]
    exact ⟨fun h => h ▸ ⟨rfl, fun _ ha => nomatch ha⟩, fun h => List.eq_nil_of_length_eq_zero h.1⟩
  | succ d ih =>
    simp only [boxExponents, List.mem_flatMap, List.mem_range, List.mem_map]
    constructor
    · rintro ⟨a, ha, e', he', rfl⟩
      obtain ⟨h1, h2⟩ := (ih e').mp he'
      exact ⟨congrArg Nat.succ h1, List.forall_mem_cons.mpr ⟨Nat.le_of_lt_succ ha, h2⟩⟩
    · rintro ⟨hl, hb⟩
      cases e with
      | nil => exact nomatch hl
      | cons a e' =>
        have hb' := List.forall_mem_cons.mp hb
        exact ⟨a, Nat.lt_succ_of_le hb'.1, e', (ih e').mpr ⟨Nat.succ.inj hl, hb'.2⟩, rfl⟩

theorem C08_mem_simplexExponents (d n : Nat) (e : List Nat) :
    e ∈ simplexExponents d n ↔ e.length = d ∧ e.sum ≤ n := by
  rw [simplexExponents, List.mem_filter, C08_mem_boxExponents, decide_eq_true_eq]
  exact ⟨fun h => ⟨h.1.1, h.2⟩,
    fun h => ⟨⟨h.1, fun a ha => (List.le_sum_of_mem ha).trans h.2⟩, h.2⟩⟩

theorem okAll_sound {r : IRule} {exps : List (List Nat)} {ex : List Nat → Nat × Nat} {tol : Nat}
    (h : exps.all (fun e => okMono r e (ex e) tol) = true) (hden : ∀ e, 0 < (ex e).2)
    {e : List Nat} (he : e ∈ exps) (hdim : ∀ p ∈ r.pts, p.1.length = e.length) :
    |applyFun r (fun x => monoQ x e) - exactQ (ex e)| ≤ 1 / 2 ^ tol :=
  C08_okMono_sound r e _ tol (hden e) hdim (List.all_eq_true.mp h e he)

theorem okAllSimplex_mono {r : IRule} {d n tol : Nat} (h : okAllSimplex r d n tol = true)
    (hdim : ∀ p ∈ r.pts, p.1.length = d) (e : List Nat) (hl : e.length = d) (hs : e.sum ≤ n) :
    |applyFun r (fun x => monoQ x e) - exactQ (exactSimplex e)| ≤ 1 / 2 ^ tol :=
  okAll_sound h exactSimplex_den_pos ((C08_mem_simplexExponents d n e).mpr ⟨hl, hs⟩) (hl ▸ hdim)

theorem okAllBox_mono {r : IRule} {d n tol : Nat} (h : okAllBox r d n tol = true)
    (hdim : ∀ p ∈ r.pts, p.1.length = d) (e : List Nat) (hl : e.length = d)
    (hs : ∀ a ∈ e, a ≤ n) :
    |applyFun r (fun x => monoQ x e) - exactQ (exactBox e)| ≤ 1 / 2 ^ tol :=
  okAll_sound h exactBox_den_pos ((C08_mem_boxExponents d n e).mpr ⟨hl, hs⟩) (hl ▸ hdim)

theorem line_mono {r : IRule} {m tol : Nat} (h : okAllSimplex r 1 m tol = true)
    (hdim : ∀ p ∈ r.pts, p.1.length = 1) (a : Nat) (ha : a ≤ m) :
    |applyFun r (fun x => monoQ x [a]) - exactQ (exactBox [a])| ≤ 1 / 2 ^ tol := by
  have := okAllSimplex_mono h hdim [a] rfl (by simpa using ha)
  rwa [exactQ_simplex1, ← exactQ_box1] at this

/-- lift to all polynomials (simplex): if the checker accepts the rule for degree `n`, then for
    EVERY polynomial of total degree ≤ `n` in `d` variables the rule is exact within `2^-tol · ‖p‖₁` -/
theorem C08_lift_simplex (r : IRule) (d n tol : Nat)
    (hdim : ∀ p ∈ r.pts, p.1.length = d)
    (h : okAllSimplex r d n tol = true) (p : QPoly)
    (hp : ∀ t ∈ p, t.2.length = d ∧ t.2.sum ≤ n) :
    |applyFun r (evalPoly p) - exactPolySimplex p| ≤ l1 p / 2 ^ tol := by
  rw [applyFun_poly, div_eq_mul_one_div]
  exact lift_terms (fun e => applyFun r (fun x => monoQ x e)) (fun e => exactQ (exactSimplex e))
    (1 / 2 ^ tol) p (fun t ht => okAllSimplex_mono h hdim t.2 (hp t ht).1 (hp t ht).2)

/-- the same on the box, degree ≤ `n` in each direction -/
theorem C08_lift_box (r : IRule) (d n tol : Nat)
    (hdim : ∀ p ∈ r.pts, p.1.length = d)
    (h : okAllBox r d n tol = true) (p : QPoly)
    (hp : ∀ t ∈ p, t.2.length = d ∧ ∀ a ∈ t.2, a ≤ n) :
    |applyFun r (evalPoly p) - exactPolyBox p| ≤ l1 p / 2 ^ tol := by
  rw [applyFun_poly, div_eq_mul_one_div]
  exact lift_terms (fun e => applyFun r (fun x => monoQ x e)) (fun e => exactQ (exactBox e))
    (1 / 2 ^ tol) p (fun t ht => okAllBox_mono h hdim t.2 (hp t ht).1 (hp t ht).2)

/-- effective order after the clamping of `get_quadrature_tri` -/
def triOrder (n : Int) : Nat := if n ≤ 1 then 2 else n.toNat
def tetOrder (n : Int) : Nat := if n < 1 then 1 else n.toNat

/-- triangles, every order: whatever rule the lookup returns for a requested order `n` is accepted
    by the checker for the (clamped) order, which is at least `n`; its nodes lie in the closed
    triangle and its weights sum to 1/2 -/
theorem C08_tri_all_orders (n : Int) (r : IRule) (h : lookupTri Gen.triTable n = some r) :
    okAllSimplex r 2 (triOrder n) Gen.quadTol = true ∧ insideSimplex r = true
      ∧ weightsOk r (1, 2) Gen.quadTol = true ∧ n ≤ (triOrder n : Int) := by
  have hm := Gen.triTable_ok _ (lookup_some h)
  simp only [Bool.and_eq_true] at hm
  refine ⟨hm.1.1, hm.1.2, hm.2, ?_⟩
  unfold triOrder
  split <;> omega

theorem C08_tet_all_orders (n : Int) (r : IRule) (h : lookupTet Gen.tetTable n = some r) :
    okAllSimplex r 3 (tetOrder n) Gen.quadTol = true ∧ insideSimplex r = true
      ∧ weightsOk r (1, 6) Gen.quadTol = true ∧ n ≤ (tetOrder n : Int) := by
  have hm := Gen.tetTable_ok _ (lookup_some h)
  simp only [Bool.and_eq_true] at hm
  refine ⟨hm.1.1, hm.1.2, hm.2, ?_⟩
  unfold tetOrder
  split <;> omega

/-- the key lists emitted by the generator are the keys of the tables (keys only) -/
theorem triTable_keys : Gen.triTable.map (·.1) = Gen.triKeys := by decide +kernel

theorem tetTable_keys : Gen.tetTable.map (·.1) = Gen.tetKeys := by decide +kernel

/-- orders outside the table raise (`none`) instead of returning a weaker rule: the lookup
    succeeds exactly for the keys of the table -/
theorem C08_tri_error_iff (n : Int) :
    lookupTri Gen.triTable n = none ↔ triOrder n ∉ Gen.triKeys := by
  rw [← triTable_keys]
  exact lookup_none_iff Gen.triTable (triOrder n)

theorem C08_tet_error_iff (n : Int) :
    lookupTet Gen.tetTable n = none ↔ tetOrder n ∉ Gen.tetKeys := by
  rw [← tetTable_keys]
  exact lookup_none_iff Gen.tetTable (tetOrder n)

/-- Gauss–Legendre with `k = lineNumPoints n` points is asked to be exact to degree `2k − 1 ≥ n` -/
theorem C08_line_degree (n : Int) : n ≤ ((2 * lineNumPoints n - 1 : Nat) : Int) := by
  unfold lineNumPoints
  simp only []
  split <;> omega

theorem C08_line_all_tabulated (n : Int) (r : IRule) (h : lookupLine Gen.lineTable n = some r) :
    okAllSimplex r 1 (2 * lineNumPoints n - 1) Gen.quadTol = true ∧ insideBox r = true
      ∧ weightsOk r (1, 1) Gen.quadTol = true := by
  have hm := Gen.lineTable_ok _ (lookup_some h)
  simp only [Bool.and_eq_true] at hm
  exact ⟨hm.1.1, hm.1.2, hm.2⟩

/-- the quadrilateral rule applied to `x^a y^b` factorises into the 1-D sums -/
theorem C08_tensor2_mono (r : IRule) (a b : Nat) (hdim : ∀ p ∈ r.pts, p.1.length = 1) :
    (tensor2 r).applyMono [a, b] = r.applyMono [a] * r.applyMono [b] := by
  refine sum_flatMap_map_mul r.pts r.pts _ _ _ _ fun pj hj pi _ => ?_
  show _ * powProd (pj.1 ++ pi.1) ([a] ++ [b]) = _
  rw [powProd_append _ _ _ _ (hdim pj hj)]; ring

theorem C08_tensor3_mono (r : IRule) (a b c : Nat) (hdim : ∀ p ∈ r.pts, p.1.length = 1) :
    (tensor3 r).applyMono [a, b, c] = r.applyMono [a] * r.applyMono [b] * r.applyMono [c] := by
  rw [tensor3_eq_prism, ← C08_tensor2_mono r a b hdim]
  exact tensorPrism_mono _ r [a, b] [c] (tensor2_dim hdim)

/-- prism rule applied to `x^a y^b z^c` = triangle sum × line sum.  `hline` is not needed: `powProd`
    truncates both sides alike. -/
theorem C08_tensorPrism_mono (tri line : IRule) (a b c : Nat)
    (htri : ∀ p ∈ tri.pts, p.1.length = 2) (hline : ∀ p ∈ line.pts, p.1.length = 1) :
    (tensorPrism tri line).applyMono [a, b, c] = tri.applyMono [a, b] * line.applyMono [c] :=
  tensorPrism_mono tri line [a, b] [c] htri

/-- an integer factorisation of a rule on a monomial, read in ℚ (the scales add up) -/
theorem applyFun_mul_of_applyMono {R A B : IRule} {e e1 e2 : List Nat}
    (hR : ∀ p ∈ R.pts, p.1.length = e.length) (hA : ∀ p ∈ A.pts, p.1.length = e1.length)
    (hB : ∀ p ∈ B.pts, p.1.length = e2.length)
    (hm : R.applyMono e = A.applyMono e1 * B.applyMono e2)
    (hs : R.SW + R.S * e.sum = (A.SW + A.S * e1.sum) + (B.SW + B.S * e2.sum)) :
    applyFun R (fun x => monoQ x e)
      = applyFun A (fun x => monoQ x e1) * applyFun B (fun x => monoQ x e2) := by
  rw [C08_applyMono_sound _ _ hR, C08_applyMono_sound _ _ hA, C08_applyMono_sound _ _ hB, hm, hs,
    pow_add, Int.cast_mul, div_mul_div_comm]

theorem applyFun_tensor2 (r : IRule) (a b : Nat) (hdim : ∀ p ∈ r.pts, p.1.length = 1) :
    applyFun (tensor2 r) (fun x => monoQ x [a, b])
      = applyFun r (fun x => monoQ x [a]) * applyFun r (fun x => monoQ x [b]) :=
  applyFun_mul_of_applyMono (tensor2_dim hdim) hdim hdim (C08_tensor2_mono r a b hdim) (by
    simp only [tensor2, List.sum_cons, List.sum_nil]; ring)

theorem applyFun_tensorPrism (tri line : IRule) (a b c : Nat)
    (htri : ∀ p ∈ tri.pts, p.1.length = 2) (hline : ∀ p ∈ line.pts, p.1.length = 1)
    (hS : tri.S = line.S) :
    applyFun (tensorPrism tri line) (fun x => monoQ x [a, b, c])
      = applyFun tri (fun x => monoQ x [a, b]) * applyFun line (fun x => monoQ x [c]) :=
  applyFun_mul_of_applyMono (tensorPrism_dim htri hline) htri hline
    (tensorPrism_mono tri line [a, b] [c] htri) (by
    simp only [tensorPrism, ← hS, List.sum_cons, List.sum_nil]; ring)

theorem applyFun_tensor3 (r : IRule) (a b c : Nat) (hdim : ∀ p ∈ r.pts, p.1.length = 1) :
    applyFun (tensor3 r) (fun x => monoQ x [a, b, c])
      = applyFun r (fun x => monoQ x [a]) * applyFun r (fun x => monoQ x [b])
        * applyFun r (fun x => monoQ x [c]) := by
  rw [tensor3_eq_prism, applyFun_tensorPrism _ _ a b c (tensor2_dim hdim) hdim rfl,
    applyFun_tensor2 r a b hdim]

/-- quadrilateral: a 1-D rule exact (within `ε = 2^-tol`) up to degree `m` gives a tensor rule exact
    within `3ε` for every monomial of degree ≤ `m` in each direction -/
theorem C08_quad_exact (r : IRule) (m tol : Nat) (hdim : ∀ p ∈ r.pts, p.1.length = 1)
    (h : okAllSimplex r 1 m tol = true) (a b : Nat) (ha : a ≤ m) (hb : b ≤ m) :
    |applyFun (tensor2 r) (fun x => monoQ x [a, b]) - exactQ (exactBox [a, b])| ≤ 3 / 2 ^ tol := by
  have hε := eps_bounds tol
  rw [applyFun_tensor2 r a b hdim, exactQ_box2, div_eq_mul_one_div]
  exact prod2_le hε.1 hε.2 (line_mono h hdim a ha) (line_mono h hdim b hb)
    (abs_exactQ_box1_le a) (abs_exactQ_box1_le b)

/-- hexahedron: within `7ε` -/
theorem C08_hex_exact (r : IRule) (m tol : Nat) (hdim : ∀ p ∈ r.pts, p.1.length = 1)
    (h : okAllSimplex r 1 m tol = true) (a b c : Nat) (ha : a ≤ m) (hb : b ≤ m) (hc : c ≤ m) :
    |applyFun (tensor3 r) (fun x => monoQ x [a, b, c]) - exactQ (exactBox [a, b, c])| ≤ 7 / 2 ^ tol := by
  have hε := eps_bounds tol
  rw [applyFun_tensor3 r a b c hdim, exactQ_box3, div_eq_mul_one_div]
  exact prod3_le hε.1 hε.2 (line_mono h hdim a ha) (line_mono h hdim b hb) (line_mono h hdim c hc)
    (abs_exactQ_box1_le a) (abs_exactQ_box1_le b)
    (abs_exactQ_box1_le c)

/-- prism: total degree ≤ `n` in (x, y) and degree ≤ `m` in z, within `3ε` -/
theorem C08_prism_exact (tri line : IRule) (n m tol : Nat)
    (htri : ∀ p ∈ tri.pts, p.1.length = 2) (hline : ∀ p ∈ line.pts, p.1.length = 1)
    (hS : tri.S = line.S)
    (h1 : okAllSimplex tri 2 n tol = true) (h2 : okAllSimplex line 1 m tol = true)
    (a b c : Nat) (hab : a + b ≤ n) (hc : c ≤ m) :
    |applyFun (tensorPrism tri line) (fun x => monoQ x [a, b, c]) - exactQ (exactPrism [a, b, c])|
      ≤ 3 / 2 ^ tol := by
  have hε := eps_bounds tol
  rw [applyFun_tensorPrism tri line a b c htri hline hS, exactQ_prism, div_eq_mul_one_div]
  exact prod2_le hε.1 hε.2
    (okAllSimplex_mono h1 htri [a, b] rfl (by simpa using hab)) (line_mono h2 hline c hc)
    (abs_exactQ_simplex2_le a b)
    (abs_exactQ_box1_le c)

/-- tensor rules keep their nodes in the closed cell -/
theorem C08_tensor2_inside (r : IRule) (h : insideBox r = true) : insideBox (tensor2 r) = true := by
  rw [insideBox_iff] at h ⊢
  intro p hp x hx
  simp only [tensor2, List.mem_flatMap, List.mem_map] at hp
  obtain ⟨pj, hj, pi, hi, rfl⟩ := hp
  rcases List.mem_append.mp hx with hx | hx
  · exact h pj hj x hx
  · exact h pi hi x hx

theorem C08_tensor3_inside (r : IRule) (h : insideBox r = true) : insideBox (tensor3 r) = true := by
  rw [insideBox_iff] at h ⊢
  intro p hp x hx
  simp only [tensor3, List.mem_flatMap, List.mem_map] at hp
  obtain ⟨pk, hk, pj, hj, pi, hi, rfl⟩ := hp
  rcases List.mem_append.mp hx with hx | hx
  · rcases List.mem_append.mp hx with hx | hx
    · exact h pj hj x hx
    · exact h pi hi x hx
  · exact h pk hk x hx

/-- the prism nodes lie in the closed prism: each is a triangle node (non-negative coordinates with
    sum ≤ 1, scaled by `2^S`) followed by a line node in `[0, 1]` -/
theorem C08_prism_inside (tri line : IRule) (hS : tri.S = line.S)
    (h1 : insideSimplex tri = true) (h2 : insideBox line = true) :
    ∀ p ∈ (tensorPrism tri line).pts, ∃ a b, p.1 = a ++ b
      ∧ (∀ x ∈ a, 0 ≤ x) ∧ a.sum ≤ 2 ^ (tensorPrism tri line).S
      ∧ (∀ x ∈ b, 0 ≤ x ∧ x ≤ 2 ^ (tensorPrism tri line).S) := by
  intro p hp
  simp only [tensorPrism, List.mem_flatMap, List.mem_map] at hp
  obtain ⟨pl, hpl, pt, hpt, rfl⟩ := hp
  simp only [insideSimplex, List.all_eq_true, Bool.and_eq_true, decide_eq_true_eq] at h1
  rw [insideBox_iff] at h2
  refine ⟨pt.1, pl.1, rfl, (h1 pt hpt).1, (h1 pt hpt).2, ?_⟩
  intro x hx
  have := h2 pl hpl x hx
  simp only [tensorPrism]
  rw [hS]; exact this

/-- the weights of the prism rule sum to (triangle weight sum) × (line weight sum) -/
theorem C08_prism_weights (tri line : IRule) :
    ((tensorPrism tri line).pts.map (·.2)).sum
      = (tri.pts.map (·.2)).sum * (line.pts.map (·.2)).sum := by
  rw [mul_comm]
  exact sum_flatMap_map_mul line.pts tri.pts (·.2) (·.2) (fun pl pt => (pt.1 ++ pl.1, pl.2 * pt.2))
    (·.2) fun _ _ _ _ => rfl

example : (lookupTri Gen.triTable 5).isSome = true := by decide +kernel
example : (lookupTri Gen.triTable 0) = some Gen.tri_2 := by decide +kernel
example : (lookupTet Gen.tetTable 7).isSome = true := by decide +kernel
example : lookupLine Gen.lineTable 5 = some Gen.line_3 := by decide +kernel

end Skv.C08
