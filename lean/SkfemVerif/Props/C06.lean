import SkfemVerif.Model.Assembly
import SkfemVerif.Model.BC
import SkfemVerif.Props.C01
import SkfemVerif.Props.C05
import Mathlib.Algebra.BigOperators.Group.Finset.Basic
import Mathlib.Algebra.BigOperators.Ring.Finset
import Mathlib.Tactic.Ring
/-
C06  Galerkin exactness end to end (patch test and projection identity).

Composition of C01 (what assembly computes) and C05 (condense / expand).  "Nonsingular" enters as
an explicit injectivity hypothesis on the system that is solved (the solver contract is: it
returns SOME solution of the system it is given).  `C06_projection_identity` is unconditional;
`C06_patch` carries the hypothesis `hGalerkin` (the discrete equations hold for `x*` on the kept
rows): deriving it from the strong form (Green's identity on polytopes) is analysis that is not
formalised here, the `partial` part of C06.
-/
namespace Skv.C06

variable {K : Type} [CommRing K]

def massForm (ncomp : Nat) : Sample K → Sample K → Sample K → K :=
  fun u v _ => ∑ c ∈ Finset.range ncomp, u c * v c

/-- the function to be projected arrives through the parameters `w` -/
def loadForm (ncomp : Nat) : Sample K → Sample K → K :=
  fun v w => ∑ c ∈ Finset.range ncomp, w c * v c

theorem C06_massForm_bilinear (ncomp : Nat) : C01.IsBilinear (massForm (K := K) ncomp) := by
  constructor
  · intro a a' b w
    simp only [massForm, Pi.add_apply, add_mul, Finset.sum_add_distrib]
  · intro c a b w
    simp only [massForm, Pi.smul_apply, smul_eq_mul, mul_assoc, Finset.mul_sum]
  · intro b w
    simp only [massForm, Pi.zero_apply, zero_mul, Finset.sum_const_zero]
  · intro a b b' w
    simp only [massForm, Pi.add_apply, mul_add, Finset.sum_add_distrib]
  · intro c a b w
    simp only [massForm, Pi.smul_apply, smul_eq_mul, mul_left_comm, Finset.mul_sum]
  · intro a w
    simp only [massForm, Pi.zero_apply, mul_zero, Finset.sum_const_zero]

theorem C06_loadForm_linear (ncomp : Nat) : C01.IsLinear (loadForm (K := K) ncomp) :=
  have h := C06_massForm_bilinear (K := K) ncomp
  ⟨fun b b' w => h.add_right w b b' w, fun c b w => h.smul_right c w b w,
    fun w => h.zero_right w w⟩

/-- projection identity: if the function to be projected is the interpolation of a coefficient
    vector `xs` (same basis, same quadrature), then `vᵀ b = vᵀ M xs` for EVERY test vector `v` -/
theorem C06_projection_identity (Nb nt nq ncomp : Nat) (b : BasisData K) (w0 : Nat → Nat → Sample K)
    (dx : Nat → Nat → K) (dofs : Nat → Nat → Nat) (xs v : Nat → K) :
    actionLin (linearPairs Nb nt nq (loadForm ncomp) b (fun k q => interp Nb xs dofs b k q) dx dofs) v
      = actionBil (bilinearTriplets Nb Nb nt nq (massForm ncomp) b b w0 dx dofs dofs) xs v := by
  rw [C01.C01_linear_represents Nb nt nq (loadForm ncomp) (C06_loadForm_linear ncomp),
    C01.C01_bilinear_represents Nb Nb nt nq (massForm ncomp) (C06_massForm_bilinear ncomp)]
  rfl

/-- entrywise version: `b_r = Σ_c M_rc xs_c` when all DOF numbers are `< N`.  `hr` is not needed:
    `cooDot` asks nothing of the row. -/
theorem C06_projection_identity_entry (Nb nt nq ncomp N : Nat) (b : BasisData K)
    (w0 : Nat → Nat → Sample K) (dx : Nat → Nat → K) (dofs : Nat → Nat → Nat)
    (hdofs : ∀ j < Nb, ∀ k < nt, dofs j k < N) (xs : Nat → K) (r : Nat) (hr : r < N) :
    denseVecEntry (linearPairs Nb nt nq (loadForm ncomp) b (fun k q => interp Nb xs dofs b k q) dx dofs) r
      = ∑ c ∈ Finset.range N,
          denseEntry (bilinearTriplets Nb Nb nt nq (massForm ncomp) b b w0 dx dofs dofs) r c * xs c := by
  have h := C06_projection_identity Nb nt nq ncomp b w0 dx dofs xs
    (fun i => if i = r then (1 : K) else 0)
  rwa [actionLin_unit, actionBil_unit_left, cooDot_eq_dense _ N fun t ht =>
    (mem_bilinearTriplets_lt Nb Nb nt nq N N (massForm ncomp) b b w0 dx dofs dofs hdofs hdofs t ht).2]
    at h

/-- hence the projection returns `xs` whenever the mass matrix is injective (nonsingular):
    any `z` with `M z = b` equals `xs` -/
theorem C06_projection_returns (N : Nat) (M : Nat → Nat → K) (bvec xs z : Nat → K)
    (hb : ∀ r < N, bvec r = matVec N M xs r)
    (hinj : ∀ y y' : Nat → K, (∀ r < N, matVec N M y r = matVec N M y' r) → ∀ r < N, y r = y' r)
    (hz : ∀ r < N, matVec N M z r = bvec r) : ∀ r < N, z r = xs r := by
  refine hinj z xs (fun r hr => ?_)
  rw [hz r hr, hb r hr]

/-- patch test, modulo `hGalerkin`: `xs` is the coefficient vector of the exact solution in the
    space.  If the discrete equations hold for `xs` on the kept rows, the prescribed vector `x`
    agrees with `xs` on the constrained DOFs and the condensed system has at most one solution,
    then `solve(*condense(A, b, x, D=D))` IS `xs`: the expansion of whatever solution `sol` the
    solver returns equals `xs` on all of `0 … n-1`. -/
theorem C06_patch (n : Nat) (A : Nat → Nat → K) (b x xs : Nat → K) (I D : List Nat)
    (hI : I.Nodup) (hD : D.Nodup) (hdisj : ∀ i, i ∈ I → i ∉ D)
    (hcover : ∀ i, i < n ↔ (i ∈ I ∨ i ∈ D))
    (hx : ∀ d ∈ D, x d = xs d)
    (hGalerkin : ∀ i ∈ I, matVec n A xs i = b i)
    (hinj : ∀ s s' : List K, s.length = I.length → s'.length = I.length →
      (∀ i ∈ I, condensedRowApply A I s i = condensedRowApply A I s' i) → s = s')
    (sol : List K) (hlen : sol.length = I.length)
    (hsol : ∀ p (hp : p < I.length),
      condensedRowApply A I sol (I[p]) = (condenseRhs A b x I D)[p]'(by simp [condenseRhs]; exact hp)) :
    ∀ i < n, expandSol x I sol i = xs i := by
  have hrestr : sol = I.map xs := by
    refine hinj sol (I.map xs) hlen (List.length_map _) (fun i hi => ?_)
    obtain ⟨p, hp, rfl⟩ := List.getElem_of_mem hi
    rw [hsol p hp,
      restrict_solves_condensed n A b x xs I D (perm_append_range n I D hI hD hdisj hcover) hx
        (I[p]) (hGalerkin _ hi)]
    simp only [condenseRhs, List.getElem_map]
  intro i hin
  rcases (hcover i).1 hin with hi | hi
  · obtain ⟨p, hp, rfl⟩ := List.getElem_of_mem hi
    rw [C05.C05_expand_on x I sol hI hlen p hp]
    simp only [hrestr, List.getElem_map]
  · rw [C05.C05_expand_off x I sol i (fun h => hdisj i h hi)]
    exact hx i hi

/-- the boundary data: if the facet projection `y` equals `xs` on the DOFs `Dq` returned by the DOF
    query (the projection identity on the facet basis) and the prescribed vector copies `y` there,
    the hypothesis `hx` of `C06_patch` holds -/
theorem C06_boundary_data (x y xs : Nat → K) (Dq : List Nat)
    (hy : ∀ d ∈ Dq, y d = xs d) (hcopy : ∀ d ∈ Dq, x d = y d) : ∀ d ∈ Dq, x d = xs d := by
  intro d hd
  rw [hcopy d hd, hy d hd]

end Skv.C06
