import SkfemVerif.Model.Cache
import SkfemVerif.Lemmas.Cache
import SkfemVerif.Gen.CacheKeys
/-
C15  No hidden state: history-independent results, operands never mutated.

Model (Model/Cache.lean): the generic memo machine `step/run/outputs` (store = association list, a
hit returns the STORED value, eviction policy `keep`), NumPy arrays with their little-endian byte
serialisation, the cache sites of the library as (guard, view, policy), and the closure machine of
the solver factories.

Tie: `Gen/CacheKeys.lean` is regenerated on every run from the guard expressions of the live source
(harness/skv/gens/cache.py); correspondence ops `cache.key`, `cache.trace` (which earlier call serves
each call of a history, observed by object identity) and `cache.closure` (keyword dictionary handed
to the backend, observed by a spy backend).

Not proved: that the library contains no other hidden state, and real aliasing of arrays (runtime;
searched).
-/
namespace Skv.C15
open Skv.Cache

/-- **Main theorem.**  For a pure `f`, a key function `κ` and an eviction policy that only drops
    entries (`hsub`) and leaves a store of one entry as it is (`hnew`), every output of every finite
    call history over the admissible arguments `P` equals `f arg` iff `κ` separates `f` on `P`. -/
theorem C15_memo_transparent {A K V : Type} [DecidableEq K] (f : A → V) (κ : A → K)
    (keep : Store K V → Store K V) (P : A → Prop)
    (hsub : ∀ s e, e ∈ keep s → e ∈ s) (hnew : ∀ e : K × V, keep [e] = [e]) :
    (∀ h : List A, (∀ a ∈ h, P a) → outputs f κ keep h = h.map f) ↔
      (∀ a b, P a → P b → κ a = κ b → f a = f b) := by
  constructor
  · intro H a b ha hb hκ
    have h1 := H [a, b] (forall_mem_pair ha hb)
    rw [outputs_pair_collision f κ keep hnew a b hκ] at h1
    exact (List.cons.inj (List.cons.inj h1).2).1
  · intro sep h hP
    exact (run_sound hsub sep consistent_nil hP).1

/-- the same from any warm state reached by an earlier history -/
theorem C15_memo_transparent_warm {A K V : Type} [DecidableEq K] (f : A → V) (κ : A → K)
    (keep : Store K V → Store K V) (P : A → Prop)
    (hsub : ∀ s e, e ∈ keep s → e ∈ s)
    (sep : ∀ a b, P a → P b → κ a = κ b → f a = f b)
    (h1 h2 : List A) (hP1 : ∀ a ∈ h1, P a) (hP2 : ∀ a ∈ h2, P a) :
    (run f κ keep (run f κ keep [] h1).1 h2).2 = h2.map f := by
  have w := (run_sound hsub sep consistent_nil hP1).2
  exact (run_sound hsub sep w hP2).1

/-- both eviction policies of the library (dictionary / single slot) satisfy `hsub` and `hnew` -/
theorem C15_policies_admissible {K V : Type} (p : Policy) :
    (∀ (s : Store K V) e, e ∈ p.keep s → e ∈ s) ∧ (∀ e : K × V, p.keep [e] = [e]) :=
  ⟨fun s e h => Policy.keep_sub p s e h, fun e => Policy.keep_new p e⟩

/-- a violated separation gives a concrete failing two-call history -/
theorem C15_collision_gives_stale {A K V : Type} [DecidableEq K] (f : A → V) (κ : A → K) (p : Policy)
    (a b : A) (hκ : κ a = κ b) (hf : f a ≠ f b) :
    outputs f κ p.keep [a, b] ≠ [a, b].map f := by
  rw [outputs_pair_collision f κ p.keep (Policy.keep_new p) a b hκ]
  exact fun h => hf (List.cons.inj (List.cons.inj h).2).1

/-- `ndarray.tobytes()` has `itemsize * size` bytes -/
theorem C15_tobytes_length (a : NpArr) : a.tobytes.length = a.width * a.vals.length :=
  length_flatten_leBytes a.width a.vals

/-- F11 (`hash_args`): `int64 [1]` and `int32 [1, 0]` are different arrays with equal byte strings -/
theorem C15_hashargs_bytes_collision :
    wInt64.tobytes = wInt32.tobytes ∧ wInt64 ≠ wInt32 ∧ wInt64.Valid ∧ wInt32.Valid := by decide

/-- not an accident of that pair: every array of 8-byte items that fit in 4 bytes has the bytes of
    the array of 4-byte items in which a zero item follows each item -/
theorem C15_bytes_collision_family (k : Nat) (sh : List Nat) (vs : List Nat)
    (hv : ∀ v ∈ vs, v < 256 ^ 4) :
    (NpArr.mk k 8 sh vs).tobytes =
      (NpArr.mk k 4 [2 * vs.length] (vs.flatMap fun v => [v, 0])).tobytes := by
  unfold NpArr.tobytes
  -- both sides list the bytes item by item
  simp only [← List.flatMap_def, List.flatMap_assoc, List.flatMap_cons, List.flatMap_nil,
    List.append_nil]
  simp only [List.flatMap_def]
  refine congrArg List.flatten (List.map_congr_left fun v hv' => ?_)
  have h4 : v / 256 / 256 / 256 / 256 = 0 := by have := hv v hv'; omega
  simp [leBytes, h4]

/-- repaired key: (shape, dtype, bytes) determines a valid array -/
theorem C15_hashargs_key_injective (a b : NpArr) (ha : a.Valid) (hb : b.Valid)
    (h : (a.shape, a.kind, a.width, a.tobytes) = (b.shape, b.kind, b.width, b.tobytes)) : a = b :=
  arrKey_inj ha hb h

/-- **soundness of the table**: whenever `determines g v`, equal keys force equal views
    (for all valid arguments) -/
theorem C15_determines_sound (g : Guard) (v : ViewKind) (hd : determines g v = true)
    (a b : Arg) (ha : a.Valid) (hb : b.Valid) (hk : keyOf g a = keyOf g b) :
    viewOf v a = viewOf v b := by
  -- the rows of the table with `determines g v = true`, one by one
  cases v with
  | selfOnly => rfl
  | objArg =>
    cases g <;> cases hd
    · simp only [keyOf, GKey.mk.injEq] at hk
      simp only [viewOf, hk.1]
    · simp only [keyOf, GKey.mk.injEq] at hk
      simp only [viewOf, (ofNat_cons_inj hk.1).1]
    · rw [argKey_inj ha hb hk]
  | arrays =>
    cases g <;> cases hd
    · simp only [keyOf, GKey.mk.injEq] at hk
      simp only [viewOf, hk.2]
    · rw [argKey_inj ha hb hk]
  | allArgs =>
    cases g <;> cases hd
    rw [argKey_inj ha hb hk]

/-- **completeness of the table**: whenever not `determines g v`, there are valid arguments with
    equal keys and different views (the witnesses are those the check replays on the implementation) -/
theorem C15_determines_complete (g : Guard) (v : ViewKind) (hd : determines g v = false) :
    ∃ a b : Arg, a.Valid ∧ b.Valid ∧ keyOf g a = keyOf g b ∧ viewOf v a ≠ viewOf v b := by
  -- one of four pairs serves each unsound entry of the table; which one is found by evaluation
  have key : determines g v = false →
      ∃ w ∈ [((⟨1, [], []⟩ : Arg), (⟨2, [], []⟩ : Arg)),
          (⟨0, [], [some wPtsA]⟩, ⟨0, [], [some wPtsB]⟩),
          (⟨0, [], [some wInt64]⟩, ⟨0, [], [some wUInt64]⟩),
          (⟨0, [], [some wInt64]⟩, ⟨0, [], [some wInt32]⟩)],
        w.1.Valid ∧ w.2.Valid ∧ keyOf g w.1 = keyOf g w.2 ∧ viewOf v w.1 ≠ viewOf v w.2 := by
    cases g <;> cases v <;> decide
  obtain ⟨w, _, h⟩ := key hd
  exact ⟨w.1, w.2, h⟩

/-- **Site theorem.**  A cache site with guard `g` and eviction policy `p` is transparent for every
    pure cached computation `f` that reads only the view `v` of its arguments — every output of
    every finite history of valid calls equals `f arg` — iff the table says `determines g v`. -/
theorem C15_site_transparent_iff (g : Guard) (v : ViewKind) (p : Policy) :
    (∀ (V : Type) (f : Arg → V), (∀ a b, viewOf v a = viewOf v b → f a = f b) →
        ∀ h : List Arg, (∀ a ∈ h, a.Valid) → siteOutputs g p f h = h.map f)
      ↔ determines g v = true := by
  constructor
  · intro H
    cases hd : determines g v with
    | true => rfl
    | false =>
      exfalso
      obtain ⟨a, b, ha, hb, hk, hv⟩ := C15_determines_complete g v hd
      exact C15_collision_gives_stale (viewOf v) (keyOf g) p a b hk hv
        (H GKey (viewOf v) (fun _ _ h => h) [a, b] (forall_mem_pair ha hb))
  · intro hd V f hf h hP
    exact (run_sound (Policy.keep_sub p)
      (fun a b ha hb hk => hf a b (C15_determines_sound g v hd a b ha hb hk)) consistent_nil hP).1

/-- every cache site found in the live source is in the sound part of the table
    (breaks when a guard is weakened: the generated file changes) -/
theorem C15_generated_sites_sound : ∀ s ∈ Gen.cacheSites, s.sound = true := by decide

/-- … hence transparent, for every cached computation reading only the site's view -/
theorem C15_all_sites_transparent (s : Site) (hs : s ∈ Gen.cacheSites)
    (V : Type) (f : Arg → V) (hf : ∀ a b, viewOf s.view a = viewOf s.view b → f a = f b)
    (h : List Arg) (hP : ∀ a ∈ h, a.Valid) :
    siteOutputs s.guard s.policy f h = h.map f :=
  (C15_site_transparent_iff s.guard s.view s.policy).mpr (C15_generated_sites_sound s hs) V f hf h hP

/-- an anchor function of the property either keeps no state at all, or has a cache site
    with the expected view whose guard is in the sound part of the table -/
def anchorOk (fn : String) (v : ViewKind) : Bool :=
  Gen.statelessFns.contains fn || Gen.cacheSites.any (fun s => s.fn == fn && s.view == v && s.sound)

/-- the cache sites the property names were found by the translator (it did not silently lose them) -/
theorem C15_anchor_sites_present :
    anchorOk "ElementLinePp.lbasis" .arrays = true ∧ anchorOk "ElementQuadP.lbasis" .arrays = true ∧
    anchorOk "ElementGlobal.gbasis" .objArg = true ∧ anchorOk "MappingIsoparametric.J" .allArgs = true ∧
    anchorOk "Mesh.facets" .selfOnly = true ∧ anchorOk "Mesh._mapping" .selfOnly = true := by decide +kernel

/-- the two lists that the AST scan of the live source writes into `Gen/CacheKeys.lean` are empty.
    The scan (trusted, not this theorem) looks for violations of the frame conditions of the unit-key
    sites: a method that rebinds an attribute read by a set-once cache outside a constructor or
    stores in place into `.p/.t/.doflocs` (`frameWrites`), a lazily attached attribute that is a
    dataclass field and would survive `dataclasses.replace` (`lazyFieldsCarried`) -/
theorem C15_frame_scan_clean : Gen.frameWrites = [] ∧ Gen.lazyFieldsCarried = [] := by decide

/-- `dataclasses.replace`: whatever the operand has cached (even stale entries), every history of
    cached calls on the returned object gives `f (new fields) arg` when the key separates `f` -/
theorem C15_replace_fresh {F A K V : Type} [DecidableEq K] (f : F → A → V) (κ : A → K) (p : Policy)
    (o : Obj F K V) (g : F → F)
    (sep : ∀ a b, κ a = κ b → f (g o.fields) a = f (g o.fields) b) (h : List A) :
    (o.replace g).calls f κ p.keep h = h.map (f (g o.fields)) := by
  exact (run_sound (P := fun _ => True) (Policy.keep_sub p) (fun a b _ _ hk => sep a b hk)
    consistent_nil fun _ _ => trivial).1

/-- … whereas a copy that carries the lazily attached attributes along returns the old object's
    value: a set-once attribute (`facets` of a mesh with cells `1`) survives the change to `2` -/
theorem C15_copy_keeping_cache_counterexample :
    let o : Obj Nat Unit Nat := ⟨1, [((), 1)]⟩
    (o.copyKeepingCache (fun _ => 2)).calls (fun t (_ : Unit) => t) (fun _ => ()) Policy.all.keep [()] = [1] ∧
    (o.replace (fun _ => 2)).calls (fun t (_ : Unit) => t) (fun _ => ()) Policy.all.keep [()] = [2] := by
  decide

/-! ### the pinned tree: each instance is replayed on the implementation by the check -/

/-- F8: `ElementLinePp.lbasis` keyed on the number of points: second point set served from the first -/
theorem C15_linepp_npoints_old_counterexample :
    determines .npoints .arrays = false ∧
    servedFrom .npoints .last [⟨0, [], [some wPtsA]⟩, ⟨0, [], [some wPtsB]⟩] = [0, 0] ∧
    servedFrom .shapeValues .last [⟨0, [], [some wPtsA]⟩, ⟨0, [], [some wPtsB]⟩] = [0, 1] := by decide

/-- F9: `ElementGlobal.V` filled once although it reads the mesh argument -/
theorem C15_global_V_old_counterexample :
    determines .unit .objArg = false ∧
    servedFrom .unit .all [⟨1, [], []⟩, ⟨2, [], []⟩] = [0, 0] ∧
    servedFrom .identity .last [⟨1, [], []⟩, ⟨2, [], []⟩, ⟨1, [], []⟩] = [0, 1, 2] := by decide

/-- F11: `hash_args` over bytes only: `J(i, j, X, int32 [1, 0])` served from `J(i, j, X, int64 [1])` -/
theorem C15_hashargs_old_counterexample :
    determines .bytes .allArgs = false ∧
    servedFrom .bytes .all [⟨0, [0, 1], [some wPtsA, some wInt64]⟩, ⟨0, [0, 1], [some wPtsA, some wInt32]⟩]
      = [0, 0] ∧
    servedFrom .shapeDtypeBytes .all
      [⟨0, [0, 1], [some wPtsA, some wInt64]⟩, ⟨0, [0, 1], [some wPtsA, some wInt32]⟩] = [0, 1] := by decide

/-- **repaired closures are history independent**: after any history of solves the captured
    dictionary is unchanged and every solve has handed the backend what a freshly made closure
    would -/
theorem C15_closure_repaired_history_independent (needsM : Bool) (cap : Dict) (h : List SolveCall) :
    closureRun .localMerge needsM cap h = (cap, h.map (closureFresh .localMerge needsM cap)) := by
  induction h with
  | nil => rfl
  | cons c h ih => simp [closureRun, closureStep, closureFresh, ih]

/-- the preconditioner the repaired Krylov closure supplies is that of the current matrix -/
theorem C15_closure_repaired_pc_current (cap : Dict) (c : SolveCall)
    (h : ((cap.merge c.kw).get? "M") = none) :
    (closureFresh .localMerge true cap c).get? "M" = some (pcOf c.A) := by
  simp [closureFresh, closureStep, effective, h, Dict.get?_set_self]

/-- F10: old closures: a 2-call history whose second solve differs from a fresh closure's — the
    preconditioner of matrix 3 is handed to the solve with matrix 5 (Krylov), and a solve-time `k=3`
    sticks to the next eigenvalue solve -/
theorem C15_closure_old_counterexample :
    (closureRun .capturedUpdate true [] [⟨3, []⟩, ⟨5, []⟩]).2
        = [[("M", pcOf 3)], [("M", pcOf 3)]] ∧
    [(⟨3, []⟩ : SolveCall), ⟨5, []⟩].map (closureFresh .capturedUpdate true [])
        = [[("M", pcOf 3)], [("M", pcOf 5)]] ∧
    (closureRun .capturedUpdate false [("k", 5)] [⟨1, [("k", 3)]⟩, ⟨1, []⟩]).2 = [[("k", 3)], [("k", 3)]] ∧
    (closureRun .localMerge false [("k", 5)] [⟨1, [("k", 3)]⟩, ⟨1, []⟩]).2 = [[("k", 3)], [("k", 5)]] := by
  decide

/-- every solver factory of the live source merges into a local dictionary -/
theorem C15_generated_closures_sound : ∀ s ∈ Gen.closureSites, s.sound = true := by decide

theorem C15_all_closures_history_independent (s : ClosureSite) (hs : s ∈ Gen.closureSites)
    (cap : Dict) (h : List SolveCall) :
    closureRun s.kind s.needsM cap h = (cap, h.map (closureFresh s.kind s.needsM cap)) := by
  have hk : s.kind = .localMerge := by
    have := C15_generated_closures_sound s hs
    simp only [ClosureSite.sound, beq_iff_eq] at this
    exact this
  rw [hk]
  exact C15_closure_repaired_history_independent s.needsM cap h

example : ∃ a : Arg, a.Valid ∧ a.arrs ≠ [] := ⟨⟨0, [0, 1], [some wPtsA, some wInt64, none]⟩, by decide, by decide⟩
example : Gen.cacheSites.length ≥ 20 := by decide
example : Gen.closureSites.length ≥ 5 := by decide
example : siteOutputs .shapeDtypeBytes .all (fun a => a.ints)
    [⟨0, [0, 1], [some wInt64]⟩, ⟨0, [1, 1], [some wInt32]⟩, ⟨0, [0, 1], [some wInt64]⟩]
    = [[0, 1], [1, 1], [0, 1]] := by decide

end Skv.C15
