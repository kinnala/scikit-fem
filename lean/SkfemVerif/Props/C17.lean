import SkfemVerif.Lemmas.MeshIO
import SkfemVerif.Props.C11
/-
C17  Saving and loading a mesh round-trips geometry, connectivity and tags.

Model: Model/MeshIO.lean (`Mesh._encode_cell_data`, the repaired `Mesh._decode_cell_data` and the
pinned one `decodeBoundaryOld` (F4), skfem/io/meshio.py, `Mesh.__post_init__`).  Tie: correspondence
ops `io.*`.

The tag theorems assume `TableSpec` of the table pair `(t2f, f2t)`, defined here; its clauses are of
the kind C11 proves about `t2f` and `f2t` (`C11_f2t0_contains`, `C11_f2t1_contains`,
`C11_same_entity_iff`).  `C17_tables_of_buildInverse` derives it for `buildInverse` of any slot table
under two hypotheses on the table; it is not derived for `entityMapping cells ref`, and the instance
shown is the two-triangle example.
-/
namespace Skv.C17

open Skv.MeshIO

/-- **bit test**: `(Σᵢ 2ⁱ mᵢ) & (1 << j) ≠ 0 ⇔ m_j`, for any number of slots -/
theorem C17_bits (m : List Bool) (j : Nat) :
    ((packBits m) &&& (1 <<< j) != 0) = m.getD j false := by
  rw [and_shift_ne_zero, testBit_packBits]

/-- the packed integer fits into `nslots` bits (≤ 6 slots: far inside the `int32` the decoder
    casts to) -/
theorem C17_bits_bound (m : List Bool) : packBits m < 2 ^ m.length := packBits_lt m

/-- every encoded cell value is below `2^nslots` -/
theorem C17_encoded_bound (t2f : List (List Nat)) (nt : Nat) (f2t : List Int × List Int)
    (fs ori : List Nat) : ∀ x ∈ encodeBoundary t2f nt f2t fs ori, x < 2 ^ t2f.length := by
  intro x hx
  obtain ⟨c, _, rfl⟩ := List.mem_map.mp hx
  have := packBits_lt ((List.range t2f.length).map
    (fun r => maskBit t2f (ownerPairs nt f2t fs ori) r c))
  simpa using this

/-- `f2t[0][f]` is a cell naming `f` in one of its slots; `f2t[1][f]` is `-1` or a *different*
    cell naming `f` (different, because the decoder tells the two neighbours apart by comparing
    the owner cell with the two rows of `f2t`, `oriFlag`); the slots of one cell name distinct
    facets (else one tagged facet would give two hits in its owner cell). -/
structure TableSpec (t2f : List (List Nat)) (nt : Nat) (f2t : List Int × List Int) : Prop where
  first : ∀ f, f < f2t.1.length →
    ∃ c, c < nt ∧ f2t.1.getD f 0 = (c : Int) ∧ ∃ r, r < t2f.length ∧ at2 t2f r c = f
  second : ∀ f, f < f2t.1.length → f2t.2.getD f 0 = -1 ∨
    ∃ c, c < nt ∧ f2t.2.getD f 0 = (c : Int) ∧ (c : Int) ≠ f2t.1.getD f 0
      ∧ ∃ r, r < t2f.length ∧ at2 t2f r c = f
  slots_inj : ∀ c, c < nt → ∀ r, r < t2f.length → ∀ r', r' < t2f.length →
    at2 t2f r c = at2 t2f r' c → r = r'

/-- a named boundary: duplicate-free facet indices, one flag per facet, flag 1 only where a
    second neighbour exists (interior facets).  Without the last clause the tag is lost: flag 1
    on a boundary facet selects the owner `f2t[1][f] = -1`, which NumPy wraps to the last cell;
    skfem/io/meshio.py sets `ori[t2 == -1] = 0` before encoding. -/
structure LegalTags (f2t : List Int × List Int) (fs ori : List Nat) : Prop where
  len : fs.length = ori.length
  nodup : fs.Nodup
  range : ∀ f ∈ fs, f < f2t.1.length
  flags : ∀ fo ∈ fs.zip ori, (fo.2 = 0 ∨ fo.2 = 1) ∧ (fo.2 = 1 → f2t.2.getD fo.1 0 ≠ -1)

/-- the owner cell chosen by the encoder is a cell that names the facet, and the decoder's flag
    for (facet, owner) is the flag that chose it -/
theorem C17_owner_spec {t2f : List (List Nat)} {nt : Nat} {f2t : List Int × List Int}
    (S : TableSpec t2f nt f2t) {f o : Nat} (hf : f < f2t.1.length) (ho : o = 0 ∨ o = 1)
    (hl : o = 1 → f2t.2.getD f 0 ≠ -1) :
    ownerCell nt f2t o f < nt ∧ (∃ r, r < t2f.length ∧ at2 t2f r (ownerCell nt f2t o f) = f)
      ∧ oriFlag f2t f (ownerCell nt f2t o f) = o := by
  rcases ho with rfl | rfl
  · obtain ⟨c, hc, e, hslot⟩ := S.first f hf
    have h2 : f2t.2.getD f 0 ≠ (c : Int) := by
      rcases S.second f hf with h | ⟨c', _, e', hne, _⟩
      · rw [h]; omega
      · rw [e', ← e]; exact hne
    rw [ownerCell, if_pos rfl, e, wrapIdx_nat, oriFlag, if_neg h2]
    exact ⟨hc, hslot, by simp⟩
  · obtain h | ⟨c', hc', e', _, hslot⟩ := S.second f hf
    · exact absurd h (hl rfl)
    · rw [ownerCell, if_neg (by decide), e', wrapIdx_nat, oriFlag, if_pos e']
      exact ⟨hc', hslot, by simp⟩

/-- the right-hand side of `C17_encode_decode`: a permutation of the tagged pairs `(facet, flag)`
    in strictly ascending facet order -/
theorem C17_sorted_pairs_spec (fs ori : List Nat) (hn : fs.Nodup) :
    (sortByFst (fs.zip ori)).Perm (fs.zip ori)
      ∧ (sortByFst (fs.zip ori)).Pairwise (fun a b => a.1 < b.1) :=
  ⟨perm_sortByFst _, strict_sortByFst (List.pairwise_map.mp ((map_fst_zip_sublist fs ori).nodup hn))⟩

/-- the decoder's (facet, cell) pairs, sorted by facet and with each cell turned into its flag, are
    the tagged (facet, flag) pairs sorted by facet: both lists are strictly ascending in the facet and
    have the same members -/
theorem decoded_pairs_sorted (t2f : List (List Nat)) (nt : Nat) (f2t : List Int × List Int)
    (S : TableSpec t2f nt f2t) (fs ori : List Nat) (L : LegalTags f2t fs ori) :
    (sortByFst (rawPairs t2f (encodeBoundary t2f nt f2t fs ori))).map
        (fun fc => (fc.1, oriFlag f2t fc.1 fc.2))
      = sortByFst (fs.zip ori) := by
  have own : ∀ fo ∈ fs.zip ori,
      ownerCell nt f2t fo.2 fo.1 < nt
      ∧ (∃ r, r < t2f.length ∧ at2 t2f r (ownerCell nt f2t fo.2 fo.1) = fo.1)
      ∧ oriFlag f2t fo.1 (ownerCell nt f2t fo.2 fo.1) = fo.2 := fun fo hfo =>
    C17_owner_spec S (L.range _ (List.of_mem_zip (a := fo.1) (b := fo.2) hfo).1)
      (L.flags fo hfo).1 (L.flags fo hfo).2
  -- the decoder finds the pairs (facet, owner cell) from which the encoder set the bits
  have hraw : ∀ fc, fc ∈ rawPairs t2f (encodeBoundary t2f nt f2t fs ori)
      ↔ fc ∈ ownerPairs nt f2t fs ori := by
    intro fc
    rw [rawPairs, List.mem_map, mem_ownerPairs]
    constructor
    · rintro ⟨⟨r, c⟩, h, rfl⟩
      obtain ⟨_, _, fo, hfo, h1, h2⟩ := hit_iff.mp h
      exact ⟨fo, hfo, Prod.ext h2 h1.symm⟩
    · rintro ⟨fo, hfo, rfl⟩
      obtain ⟨hlt, ⟨r, hr, hat⟩, _⟩ := own fo hfo
      exact ⟨(r, _), hit_iff.mpr ⟨hr, hlt, fo, hfo, rfl, hat⟩, Prod.ext hat rfl⟩
  -- and turns each owner cell back into the flag that chose it
  have hflag : (ownerPairs nt f2t fs ori).map (fun fc => (fc.1, oriFlag f2t fc.1 fc.2))
      = fs.zip ori := by
    rw [ownerPairs, List.map_map]
    exact map_eq_self fun fo hfo => Prod.ext rfl (own fo hfo).2.2
  have hon : ((ownerPairs nt f2t fs ori).map Prod.fst).Nodup := by
    rw [ownerPairs, List.map_map]
    exact (map_fst_zip_sublist fs ori).nodup L.nodup
  -- two hits on one facet lie in its one owner cell, hence (`slots_inj`) in one slot
  have hkeys : (rawPairs t2f (encodeBoundary t2f nt f2t fs ori)).Pairwise
      (fun a b => a.1 ≠ b.1) := by
    refine List.pairwise_map.mpr ((nodup_hits _ _).imp_of_mem ?_)
    rintro ⟨r, c⟩ ⟨r', c'⟩ ha hb hne (e : at2 t2f r c = at2 t2f r' c')
    obtain rfl : c = c' := congrArg Prod.snd (inj_of_nodup_map Prod.fst hon
      ((hraw _).mp (List.mem_map_of_mem ha)) ((hraw _).mp (List.mem_map_of_mem hb)) e)
    exact hne (by rw [S.slots_inj c (hit_iff.mp ha).2.1 r (hit_iff.mp ha).1 r' (hit_iff.mp hb).1 e])
  refine eq_of_pairwise_of_mem_iff (fun _ _ => Nat.lt_asymm)
    (List.pairwise_map.mpr (strict_sortByFst hkeys)) (C17_sorted_pairs_spec fs ori L.nodup).2
    fun x => ?_
  rw [mem_sortByFst, ← hflag]
  simp only [List.mem_map, mem_sortByFst, hraw]

/-- **encode → decode**: the repaired decoder returns the facets in ascending order, each with
    its own flag (`decoded_pairs_sorted`, unzipped) -/
theorem C17_encode_decode (t2f : List (List Nat)) (nt : Nat) (f2t : List Int × List Int)
    (S : TableSpec t2f nt f2t) (fs ori : List Nat) (L : LegalTags f2t fs ori) :
    decodeBoundary t2f f2t (encodeBoundary t2f nt f2t fs ori)
      = ((sortByFst (fs.zip ori)).map (·.1), (sortByFst (fs.zip ori)).map (·.2)) := by
  rw [← decoded_pairs_sorted t2f nt f2t S fs ori L, decodeBoundary, List.map_map, List.map_map]
  rfl

/-- the decoded facet array is `np.sort` of the tagged facet set -/
theorem C17_decoded_facets (t2f : List (List Nat)) (nt : Nat) (f2t : List Int × List Int)
    (S : TableSpec t2f nt f2t) (fs ori : List Nat) (L : LegalTags f2t fs ori) :
    (decodeBoundary t2f f2t (encodeBoundary t2f nt f2t fs ori)).1 = sortCol fs := by
  rw [C17_encode_decode t2f nt f2t S fs ori L]
  exact (map_fst_sortByFst _).trans (congrArg sortCol (List.map_fst_zip (Nat.le_of_eq L.len)))

/-- the decoded pairs `(facet, flag)` are exactly the tagged pairs -/
theorem C17_decoded_pairs (t2f : List (List Nat)) (nt : Nat) (f2t : List Int × List Int)
    (S : TableSpec t2f nt f2t) (fs ori : List Nat) (L : LegalTags f2t fs ori) (f o : Nat) :
    (f, o) ∈ (decodeBoundary t2f f2t (encodeBoundary t2f nt f2t fs ori)).1.zip
              (decodeBoundary t2f f2t (encodeBoundary t2f nt f2t fs ori)).2
      ↔ (f, o) ∈ fs.zip ori := by
  rw [C17_encode_decode t2f nt f2t S fs ori L,
    ← List.zip_of_prod (xs := sortByFst (fs.zip ori)) rfl rfl, mem_sortByFst]

/-- an unoriented set (plain index array: all flags 0), of boundary or interior facets, comes back
    as a plain sorted index array: all decoded flags are 0, so `ori.any()` is false -/
theorem C17_unoriented (t2f : List (List Nat)) (nt : Nat) (f2t : List Int × List Int)
    (S : TableSpec t2f nt f2t) (fs : List Nat) (hn : fs.Nodup)
    (hr : ∀ f ∈ fs, f < f2t.1.length) :
    decodeBoundary t2f f2t (encodeBoundary t2f nt f2t fs (List.replicate fs.length 0))
        = (sortCol fs, List.replicate fs.length 0)
      ∧ isOriented (decodeBoundary t2f f2t
          (encodeBoundary t2f nt f2t fs (List.replicate fs.length 0))).2 = false := by
  have hz : ∀ fo ∈ fs.zip (List.replicate fs.length 0), fo.2 = 0 := by
    intro fo hfo
    exact (List.mem_replicate.mp (List.of_mem_zip (a := fo.1) (b := fo.2) hfo).2).2
  have L : LegalTags f2t fs (List.replicate fs.length 0) :=
    ⟨by simp, hn, hr, fun fo hfo => ⟨Or.inl (hz fo hfo), fun h => by rw [hz fo hfo] at h; omega⟩⟩
  have h1 := C17_decoded_facets t2f nt f2t S fs _ L
  have h2 : (decodeBoundary t2f f2t
      (encodeBoundary t2f nt f2t fs (List.replicate fs.length 0))).2
      = List.replicate fs.length 0 := by
    rw [C17_encode_decode t2f nt f2t S fs _ L]
    exact List.perm_replicate.mp (perm_map_snd_sortByFst_zip L.len)
  refine ⟨Prod.ext h1 h2, ?_⟩
  rw [h2]
  simp [isOriented]

/-- the decoder returns an oriented boundary iff the tagged set carried a nonzero flag -/
theorem C17_oriented_iff (t2f : List (List Nat)) (nt : Nat) (f2t : List Int × List Int)
    (S : TableSpec t2f nt f2t) (fs ori : List Nat) (L : LegalTags f2t fs ori) :
    isOriented (decodeBoundary t2f f2t (encodeBoundary t2f nt f2t fs ori)).2 = isOriented ori := by
  rw [C17_encode_decode t2f nt f2t S fs ori L]
  show isOriented ((sortByFst (fs.zip ori)).map (·.2)) = isOriented ori
  exact (perm_map_snd_sortByFst_zip L.len).any_eq

/-- two triangles `[0,1,2]`, `[1,2,3]`: `t2f`, `f2t` as computed by `build_entities` /
    `build_inverse`; facet 2 is the shared edge -/
def t2fEx : List (List Nat) := [[0, 2], [2, 4], [1, 3]]
def f2tEx : List Int × List Int := ([0, 0, 1, 1, 1], [-1, -1, 0, -1, -1])

example : buildInverse 2 t2fEx = f2tEx := by decide

theorem C17_tableSpec_example : TableSpec t2fEx 2 f2tEx := ⟨by decide, by decide, by decide⟩

theorem C17_legalTags_example : LegalTags f2tEx [4, 2, 1] [0, 1, 0] :=
  ⟨by decide, by decide, by decide, by decide⟩

example : decodeBoundary t2fEx f2tEx (encodeBoundary t2fEx 2 f2tEx [4, 2, 1] [0, 1, 0])
    = ([1, 2, 4], [0, 1, 0]) := by decide

/-- **F4**: the pinned decoder sorts the facets but leaves the owner cells in row-major order.
    The unoriented set {1, 2} (cell data `[4, 1]`) comes back with a spurious flag on facet 2; the
    set {1, 2, 4} with flag 1 on the interior facet 2 comes back with the flag lost.  The repaired
    decoder returns both unchanged. -/
theorem C17_decode_old_counterexample :
    encodeBoundary t2fEx 2 f2tEx [1, 2] [0, 0] = [4, 1]
    ∧ decodeBoundaryOld t2fEx f2tEx [4, 1] = ([1, 2], [0, 1])
    ∧ decodeBoundary t2fEx f2tEx [4, 1] = ([1, 2], [0, 0])
    ∧ encodeBoundary t2fEx 2 f2tEx [1, 2, 4] [0, 1, 0] = [6, 2]
    ∧ decodeBoundaryOld t2fEx f2tEx [6, 2] = ([1, 2, 4], [0, 0, 0])
    ∧ decodeBoundary t2fEx f2tEx [6, 2] = ([1, 2, 4], [0, 1, 0]) := by decide +kernel

/-- for every slot table `t2f` with `nt > 0` columns whose facet numbers are contiguous (`hsurj`;
    for `entityMapping`: `mem_flatten_entityMapping`) and whose cells name distinct facets in
    distinct slots (`hinj`: derived nowhere for `entityMapping`), the pair
    `(t2f, build_inverse(t2f))` satisfies `TableSpec` -/
theorem C17_tables_of_buildInverse (nt : Nat) (hnt : 0 < nt) (mapping : List (List Nat))
    (hrows : ∀ r ∈ mapping, r.length = nt)
    (hsurj : ∀ f, f < listMax mapping.flatten + 1 → f ∈ mapping.flatten)
    (hinj : ∀ c, c < nt → ∀ r, r < mapping.length → ∀ r', r' < mapping.length →
      at2 mapping r c = at2 mapping r' c → r = r') :
    TableSpec mapping nt (buildInverse nt mapping) := by
  have hlen1 := (length_buildInverse nt mapping).1
  refine ⟨?_, ?_, hinj⟩
  · intro f hf
    rw [hlen1] at hf
    obtain ⟨i, hi, hk, h⟩ := C11.C11_f2t0_contains nt hnt mapping hrows f (hsurj f hf)
    exact ⟨_, Nat.mod_lt _ hnt, buildInverse_fst_getD nt mapping f hf, i, hi,
      (at2_eq_getElem hi hk).trans h⟩
  · intro f hf
    rw [hlen1] at hf
    rw [buildInverse_snd_getD nt mapping f hf, buildInverse_fst_getD nt mapping f hf]
    by_cases h : firstCell nt mapping.flatten f = lastCell nt mapping.flatten f
    · left; rw [if_pos h]
    · right
      rw [if_neg h]
      obtain ⟨i, hi, hk, h2⟩ := C11.C11_f2t1_contains nt hnt mapping hrows f (hsurj f hf)
      exact ⟨_, Nat.mod_lt _ hnt, rfl, fun e => h (Int.ofNat_inj.mp e).symm, i, hi,
        (at2_eq_getElem hi hk).trans h2⟩

example : TableSpec t2fEx 2 (buildInverse 2 t2fEx) :=
  C17_tables_of_buildInverse 2 (by decide) t2fEx (by decide) (by decide) (by decide)

/-- **subdomain round trip**: the decoded indicator lists, in ascending order and once each,
    exactly the tagged cells -/
theorem C17_subdomain_indicator (nt : Nat) (s : List Nat) (hs : ∀ c ∈ s, c < nt) :
    (decodeSub (encodeSub nt s)).Pairwise (· < ·)
      ∧ ∀ c, c ∈ decodeSub (encodeSub nt s) ↔ c ∈ s := by
  rw [decodeSub_encodeSub]
  refine ⟨pairwise_filter_range nt _, ?_⟩
  intro c
  simp only [List.mem_filter, List.mem_range, List.contains_iff_mem]
  exact ⟨fun h => h.2, fun h => ⟨hs c h, h⟩⟩

/-- for an ascending index array: the identity -/
theorem C17_subdomain_roundtrip (nt : Nat) (s : List Nat) (hs : ∀ c ∈ s, c < nt)
    (hsorted : s.Pairwise (· < ·)) : decodeSub (encodeSub nt s) = s := by
  obtain ⟨h1, h2⟩ := C17_subdomain_indicator nt s hs
  exact eq_of_pairwise_of_mem_iff (fun _ _ => Nat.lt_asymm) h1 hsorted h2

example : decodeSub (encodeSub 5 [3, 1]) = [1, 3] := by decide

/-- `INV_HEX_MAPPING` as computed by the list comprehension of skfem/io/meshio.py -/
theorem C17_hex_inv_table : invHexMapping =
    [0, 4, 3, 1, 7, 5, 2, 6, 16, 11, 8, 15, 12, 19, 10, 17, 9, 14, 13, 18,
     20, 24, 22, 23, 25, 21, 26] := by decide +kernel

/-- `HEX_MAPPING` and `INV_HEX_MAPPING` are mutually inverse permutations of `0..26`, and their
    first 8 entries mutually inverse permutations of `0..7` -/
theorem C17_hex_perm :
    (∀ i, i < 27 → hexMapping.getD (invHexMapping.getD i 0) 0 = i)
    ∧ (∀ i, i < 27 → invHexMapping.getD (hexMapping.getD i 0) 0 = i)
    ∧ (∀ i, i < 8 → hexMapping.getD i 0 < 8 ∧ invHexMapping.getD i 0 < 8)
    ∧ hexMapping.length = 27 ∧ invHexMapping.length = 27 := by decide +kernel

/-- export then import of the rows of `t`: `t[HEX_MAPPING][INV_HEX_MAPPING] = t` for every
    27-row array (`MeshHex2`) -/
theorem C17_hex_roundtrip27 {α : Type} [Inhabited α] (t : List α) (ht : t.length = 27) :
    takeRows (takeRows t hexMapping) invHexMapping = t :=
  takeRows_invPerm t hexMapping ht.symm (ht ▸ by decide)

/-- the same for the 8 vertex rows (`MeshHex1`): `t[HEX_MAPPING[:8]][INV_HEX_MAPPING[:8]] = t` -/
theorem C17_hex_roundtrip8 {α : Type} [Inhabited α] (t : List α) (ht : t.length = 8) :
    takeRows (takeRows t (hexMapping.take 8)) (invHexMapping.take 8) = t := by
  -- the first 8 entries of the inverse table are the inverse of the first 8 entries
  rw [show invHexMapping.take 8 = invPerm (hexMapping.take 8) by decide]
  exact takeRows_invPerm t _ ht.symm (by rw [ht]; decide)

/-- **high-order meshes: `__post_init__ ∘ to_meshio` is the identity.**  `to_meshio` writes the
    points in `Dofs` order (`p = doflocs`) and the connectivity `tFull = dofs.element_dofs` (the `M`
    vertex rows, then the rows of the extra nodes).  On reading, `__post_init__` re-derives vertex
    numbers and scatters the extra nodes to the positions given by `Dofs` of the new vertex
    connectivity.  If every vertex number `0..nv-1` is used by a cell and every extra node by some
    row, the result is the original `(t, doflocs)`.  `dofs` is any function from the vertex
    connectivity to `element_dofs`; `hdofs` says the file was written from it. -/
theorem C17_high_order_reorder {α : Type} [Inhabited α] (zero : α) (M nt nv : Nat) (p : List α)
    (tFull : List (List Nat)) (dofs : List (List Nat) → List (List Nat))
    (hdofs : dofs (tFull.take M) = tFull)
    (hverts : unique (tFull.take M).flatten = List.range nv)
    (hN : p.length = listMax tFull.flatten + 1)
    (hnv : nv ≤ p.length)
    (hshape : ∀ r ∈ tFull.drop M, r.length = nt)
    (hcover : ∀ j, nv ≤ j → j < p.length → j ∈ (tFull.drop M).flatten) :
    postInit zero M nt p tFull dofs = (tFull.take M, p) := by
  -- the rank map is the identity
  have hT : (tFull.take M).map (fun row => row.map
      (fun v => (unique (tFull.take M).flatten).idxOf v)) = tFull.take M := by
    refine map_eq_self fun row hrow => map_eq_self fun v hv => ?_
    have : v ∈ unique (tFull.take M).flatten :=
      mem_unique.mpr (List.mem_flatten_of_mem hrow hv)
    rw [hverts] at this ⊢
    exact idxOf_range (List.mem_range.mp this)
  unfold postInit
  simp only [hT, hdofs]
  congr 1
  rw [hverts, List.length_range, ← hN]
  have hlen : ((List.range nv).map (fun v => p.getD v default)
      ++ List.replicate (p.length - nv) zero).length = p.length := by
    simp; omega
  -- a position that no extra-node row names is a vertex, and the vertices are in place
  rw [scatter_map_eq (fun v => p.getD v default), hlen, map_getD_range_id]
  intro i hi hJ
  have hlt : i < nv := Nat.lt_of_not_le fun hge =>
    hJ (mem_flattenF_of_mem_flatten hshape (hcover i hge (hlen ▸ hi)))
  rw [List.getElem_append_left (by simpa using hlt), List.getElem_map, List.getElem_range]

/-- two quadratic triangles (4 vertices, 5 edge nodes) -/
example : postInit (0 : Nat) 3 2 [10, 11, 12, 13, 14, 15, 16, 17, 18]
    [[0, 1], [1, 2], [2, 3], [4, 6], [6, 8], [5, 7]] (fun _ => [[0, 1], [1, 2], [2, 3], [4, 6], [6, 8], [5, 7]])
    = ([[0, 1], [1, 2], [2, 3]], [10, 11, 12, 13, 14, 15, 16, 17, 18]) := by decide

/-- a file in another node order (extra nodes before the vertices) is re-ordered: vertices first,
    extra nodes where `Dofs` puts them -/
example : postInit (0 : Nat) 3 1 [14, 15, 16, 10, 11, 12]
    [[3], [4], [5], [0], [1], [2]] (fun _ => [[0], [1], [2], [3], [4], [5]])
    = ([[0], [1], [2]], [10, 11, 12, 14, 15, 16]) := by decide

/-- **npz round trip of the tag directory**: for all boundary names (any characters, each name
    once) with their oriented/plain kind and all subdomain names, `load_npz` recovers the saved
    names, in order, each boundary with its kind; `doflocs` and `t` are never mistaken for tags,
    nor `b_`, `o_`, `s_` keys for one another -/
theorem C17_npz_keys_roundtrip (bnd : List (Key × Bool)) (sub : List Key)
    (hn : (bnd.map (·.1)).Nodup) : npzLoad (npzKeys bnd sub) = (bnd, sub) := by
  have hb : (npzKeys bnd sub).filter (fun k => k.take 2 == ['b', '_'])
      = bnd.map (fun b => 'b' :: '_' :: b.1) := by
    simp [npzKeys, List.filter_append, filter_tag_map]
  have hs : (npzKeys bnd sub).filter (fun k => k.take 2 == ['s', '_'])
      = sub.map (fun s => 's' :: '_' :: s) := by
    simp [npzKeys, List.filter_append, filter_tag_map]
  have ho : ∀ b ∈ bnd, (npzKeys bnd sub).contains ('o' :: '_' :: b.1) = b.2 := fun b hb => by
    rw [Bool.eq_iff_iff, List.contains_iff_mem]
    unfold npzKeys
    simp only [List.mem_append, List.mem_map, List.mem_filter, List.mem_cons, List.not_mem_nil,
      or_false, List.cons.injEq, reduceCtorEq, false_and, and_false, exists_false,
      Char.reduceEq, true_and, false_or]
    exact ⟨fun ⟨b', ⟨hb', h2⟩, e⟩ => inj_of_nodup_map (·.1) hn hb' hb e ▸ h2,
      fun h => ⟨b, ⟨hb, h⟩, rfl⟩⟩
  rw [npzLoad, hb, hs, List.map_map, List.map_map]
  exact Prod.ext (map_eq_self fun b hb => Prod.ext rfl (ho b hb)) (map_eq_self fun _ _ => rfl)

example : npzLoad (npzKeys [("s_x".toList, true), ("t".toList, false)] ["b_".toList, "".toList])
    = ([("s_x".toList, true), ("t".toList, false)], ["b_".toList, "".toList]) := by decide

end Skv.C17
