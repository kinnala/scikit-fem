import SkfemVerif.Model.Integration
import SkfemVerif.Model.Poly
import SkfemVerif.Props.C01
import SkfemVerif.Props.C08
import SkfemVerif.Gen.ShapeFacts
import SkfemVerif.Lemmas.Poly
import Mathlib.Algebra.MvPolynomial.Degrees
import Mathlib.Algebra.MvPolynomial.Monad
import Mathlib.Tactic.Ring
import Mathlib.Tactic.NormNum
/-
C02  Integration is exact for polynomial data on cells and facets.

Composition of: C08 (the reference rules are exact for ALL polynomials of the advertised degree),
C01 (what assembly computes from `basis` and `dx`), C09 (shape polynomials, degrees) and the
bookkeeping `dx = |det| · W` of Model/Integration.lean (tied by the correspondence op `c02.dx`).
"The exact integral over a cell" is, as in the statement of the property, the pull-back
`|det A| · ∫_ref (p ∘ F)`; the monomial integrals over the reference cells are those of C08.
-/
namespace Skv.C02
open Skv.C08

theorem C02_cellDx_entry (absdet W : List ℚ) (k q : Nat) (hk : k < absdet.length) (hq : q < W.length) :
    ((cellDx absdet W).getD k []).getD q 0 = absdet.getD k 0 * W.getD q 0 := by
  rw [cellDx, getD_map_of_lt _ _ k [] 0 hk, getD_map_of_lt _ _ q 0 0 hq]

/-- swapping two vertices of a triangle flips the sign of the determinant, so (below) `|det|` does not
    depend on the local vertex order -/
theorem C02_det2_swap (a b c : ℚ × ℚ) :
    det2 b a c = - det2 a b c ∧ det2 a c b = - det2 a b c ∧ det2 c b a = - det2 a b c := by
  refine ⟨?_, ?_, ?_⟩ <;> (unfold det2; ring)

theorem C02_abs_det2_perm (a b c : ℚ × ℚ) :
    |det2 b a c| = |det2 a b c| ∧ |det2 a c b| = |det2 a b c| ∧ |det2 c b a| = |det2 a b c|
      ∧ |det2 b c a| = |det2 a b c| ∧ |det2 c a b| = |det2 a b c| := by
  obtain ⟨h1, h2, h3⟩ := C02_det2_swap a b c
  have h4 : det2 b c a = det2 a b c := by unfold det2; ring
  have h5 : det2 c a b = det2 a b c := by unfold det2; ring
  rw [h1, h2, h3, h4, h5, abs_neg]
  exact ⟨rfl, rfl, rfl, rfl, rfl⟩

theorem C02_det3_swap (a b c d : ℚ × ℚ × ℚ) :
    det3 b a c d = - det3 a b c d ∧ det3 a c b d = - det3 a b c d ∧ det3 a b d c = - det3 a b c d := by
  refine ⟨?_, ?_, ?_⟩ <;> (simp only [det3]; ring)

theorem C02_det2_translate (a b c s : ℚ × ℚ) :
    det2 (a.1 + s.1, a.2 + s.2) (b.1 + s.1, b.2 + s.2) (c.1 + s.1, c.2 + s.2) = det2 a b c := by
  unfold det2; ring

/-- reflecting one coordinate or exchanging the two flips the sign only -/
theorem C02_det2_reflect (a b c : ℚ × ℚ) :
    det2 (-a.1, a.2) (-b.1, b.2) (-c.1, c.2) = - det2 a b c
    ∧ det2 (a.2, a.1) (b.2, b.1) (c.2, c.1) = - det2 a b c := by
  refine ⟨?_, ?_⟩ <;> (unfold det2; ring)

theorem C02_det3_translate (a b c d s : ℚ × ℚ × ℚ) :
    det3 (a.1 + s.1, a.2.1 + s.2.1, a.2.2 + s.2.2) (b.1 + s.1, b.2.1 + s.2.1, b.2.2 + s.2.2)
         (c.1 + s.1, c.2.1 + s.2.1, c.2.2 + s.2.2) (d.1 + s.1, d.2.1 + s.2.1, d.2.2 + s.2.2)
      = det3 a b c d := by
  simp only [det3]; ring

/-- under `x ↦ L x + s` the determinant is multiplied by `det L` -/
theorem C02_det2_linear (a b c s : ℚ × ℚ) (l00 l01 l10 l11 : ℚ) :
    det2 (l00 * a.1 + l01 * a.2 + s.1, l10 * a.1 + l11 * a.2 + s.2)
         (l00 * b.1 + l01 * b.2 + s.1, l10 * b.1 + l11 * b.2 + s.2)
         (l00 * c.1 + l01 * c.2 + s.1, l10 * c.1 + l11 * c.2 + s.2)
      = (l00 * l11 - l01 * l10) * det2 a b c := by
  unfold det2; ring

/-- an orthogonal matrix (`LᵀL = I`: any rotation or reflection, rational entries) has
    `|det L| = 1` -/
theorem C02_orthogonal2_det (l00 l01 l10 l11 : ℚ)
    (h0 : l00 * l00 + l10 * l10 = 1) (h1 : l01 * l01 + l11 * l11 = 1)
    (h2 : l00 * l01 + l10 * l11 = 0) : |l00 * l11 - l01 * l10| = 1 := by
  -- Lagrange's identity: `det² = |col₀|² |col₁|² - (col₀ · col₁)²`
  have hsq : (l00 * l11 - l01 * l10) ^ 2
      = (l00 * l00 + l10 * l10) * (l01 * l01 + l11 * l11) - (l00 * l01 + l10 * l11) ^ 2 := by ring
  rw [h0, h1, h2, mul_one, zero_pow two_ne_zero, sub_zero, ← sq_abs] at hsq
  exact (pow_eq_one_iff_of_nonneg (abs_nonneg _) two_ne_zero).mp hsq

/-- `|det|` is invariant under every rational rotation/reflection plus translation -/
theorem C02_abs_det2_rigid (a b c s : ℚ × ℚ) (l00 l01 l10 l11 : ℚ)
    (h0 : l00 * l00 + l10 * l10 = 1) (h1 : l01 * l01 + l11 * l11 = 1)
    (h2 : l00 * l01 + l10 * l11 = 0) :
    |det2 (l00 * a.1 + l01 * a.2 + s.1, l10 * a.1 + l11 * a.2 + s.2)
          (l00 * b.1 + l01 * b.2 + s.1, l10 * b.1 + l11 * b.2 + s.2)
          (l00 * c.1 + l01 * c.2 + s.1, l10 * c.1 + l11 * c.2 + s.2)| = |det2 a b c| := by
  rw [C02_det2_linear, abs_mul, C02_orthogonal2_det l00 l01 l10 l11 h0 h1 h2, one_mul]

/-- three dimensions: under `x ↦ L x + s` the determinant is multiplied by `det L` -/
theorem C02_det3_linear (a b c d s : ℚ × ℚ × ℚ) (l00 l01 l02 l10 l11 l12 l20 l21 l22 : ℚ) :
    let T := fun (p : ℚ × ℚ × ℚ) =>
      (l00 * p.1 + l01 * p.2.1 + l02 * p.2.2 + s.1, l10 * p.1 + l11 * p.2.1 + l12 * p.2.2 + s.2.1,
       l20 * p.1 + l21 * p.2.1 + l22 * p.2.2 + s.2.2)
    det3 (T a) (T b) (T c) (T d)
      = (l00 * (l11 * l22 - l12 * l21) - l01 * (l10 * l22 - l12 * l20) + l02 * (l10 * l21 - l11 * l20))
          * det3 a b c d := by
  simp only [det3]; ring

/-- the 3-4-5 rotation is a rational rigid motion -/
example : |det2 ((3/5 : ℚ) * 1 + (-4/5) * 0 + 2, (4/5) * 1 + (3/5) * 0 + 7)
                ((3/5 : ℚ) * 0 + (-4/5) * 1 + 2, (4/5) * 0 + (3/5) * 1 + 7)
                ((3/5 : ℚ) * 0 + (-4/5) * 0 + 2, (4/5) * 0 + (3/5) * 0 + 7)| = |det2 (1, 0) (0, 1) (0, 0)| := by
  have := C02_abs_det2_rigid (1, 0) (0, 1) (0, 0) (2, 7) (3/5) (-4/5) (4/5) (3/5)
    (by norm_num) (by norm_num) (by norm_num)
  simpa using this

section Sums
variable {K : Type} [CommRing K]

/-- the discrete integral over a union of cell lists is the sum (subdomains, facet sets) -/
theorem C02_integral_append (c1 c2 : List Nat) (nq : Nat) (g dx : Nat → Nat → K) :
    discreteIntegral (c1 ++ c2) nq g dx = discreteIntegral c1 nq g dx + discreteIntegral c2 nq g dx := by
  unfold discreteIntegral
  rw [List.map_append, List.sum_append]

/-- … and does not depend on the order in which the cells are listed -/
theorem C02_integral_perm (c1 c2 : List Nat) (h : c1.Perm c2) (nq : Nat) (g dx : Nat → Nat → K) :
    discreteIntegral c1 nq g dx = discreteIntegral c2 nq g dx := by
  unfold discreteIntegral
  exact (h.map _).sum_eq

/-- the functional computed by assembly (C01 model) IS the discrete integral over all cells -/
theorem C02_functional_is_integral (nt nq : Nat) (f : Sample K → K) (w : Nat → Nat → Sample K)
    (dx : Nat → Nat → K) :
    functionalValue nt nq f w dx = discreteIntegral (List.range nt) nq (fun k q => f (w k q)) dx := by
  rfl

/-- if the values of the basis functions (component 0) sum to one at every quadrature point of every
    cell, the sum of ALL entries of the assembled mass matrix (`1ᵀ M 1`) equals `Σ_k Σ_q dx` -/
theorem C02_mass_sums_to_measure (Nb nt nq : Nat) (b : BasisData K) (w : Nat → Nat → Sample K)
    (dx : Nat → Nat → K) (dofs : Nat → Nat → Nat)
    (hpou : ∀ k < nt, ∀ q < nq, ∑ j ∈ Finset.range Nb, b j k q 0 = 1) :
    actionBil (bilinearTriplets Nb Nb nt nq (fun u v _ => u 0 * v 0) b b w dx dofs dofs)
        (fun _ => 1) (fun _ => 1)
      = ∑ k ∈ Finset.range nt, ∑ q ∈ Finset.range nq, dx k q := by
  have hf : C01.IsBilinear (fun (u v _w : Sample K) => u 0 * v 0) :=
    ⟨fun _ _ _ _ => add_mul _ _ _, fun _ _ _ _ => mul_assoc _ _ _, fun _ _ => zero_mul _,
      fun _ _ _ _ => mul_add _ _ _, fun _ _ _ _ => mul_left_comm _ _ _, fun _ _ => mul_zero _⟩
  rw [C01.C01_bilinear_represents Nb Nb nt nq _ hf]
  refine Finset.sum_congr rfl (fun k hk => Finset.sum_congr rfl (fun q hq => ?_))
  have h1 : interp Nb (fun _ => (1 : K)) dofs b k q 0 = 1 := by
    simpa [interp_apply] using hpou k (Finset.mem_range.mp hk) q (Finset.mem_range.mp hq)
  simp only [h1, one_mul]

end Sums

/-- affine cell, any orientation: with `dx = D · w_q` (`D = |det A| ≥ 0`) and a rule accepted for total
    degree `n`, the cell integral of ANY pulled-back polynomial `q = p ∘ F` of degree ≤ `n` differs
    from `D · ∫_ref q` by at most `D · ‖q‖₁ / 2^tol` -/
theorem C02_affine_cell_exact (r : IRule) (d n tol : Nat) (hdim : ∀ p ∈ r.pts, p.1.length = d)
    (h : okAllSimplex r d n tol = true) (q : QPoly) (hq : ∀ t ∈ q, t.2.length = d ∧ t.2.sum ≤ n)
    (D : ℚ) (hD : 0 ≤ D) :
    |D * applyFun r (evalPoly q) - D * exactPolySimplex q| ≤ D * (l1 q / 2 ^ tol) :=
  scaled_abs_le hD (C08_lift_simplex r d n tol hdim h q hq)

/-- the same for tensor-product cells (degree ≤ `n` per direction) -/
theorem C02_box_cell_exact (r : IRule) (d n tol : Nat) (hdim : ∀ p ∈ r.pts, p.1.length = d)
    (h : okAllBox r d n tol = true) (q : QPoly) (hq : ∀ t ∈ q, t.2.length = d ∧ ∀ a ∈ t.2, a ≤ n)
    (D : ℚ) (hD : 0 ≤ D) :
    |D * applyFun r (evalPoly q) - D * exactPolyBox q| ≤ D * (l1 q / 2 ^ tol) :=
  scaled_abs_le hD (C08_lift_box r d n tol hdim h q hq)

/-- the constant function: every tabulated triangle rule of every order gives the measure
    `D / 2` of the cell within `D / 2^40` -/
theorem C02_tri_measure (n : Int) (r : IRule) (h : lookupTri Gen.triTable n = some r) (D : ℚ) (hD : 0 ≤ D) :
    |D * ((r.pts.map (fun p => (p.2 : ℚ) / 2 ^ r.SW)).sum) - D / 2| ≤ D / 2 ^ Gen.quadTol := by
  have h2 := scaled_abs_le hD
    (weightsOk_sound r 1 2 Gen.quadTol (by decide) (C08_tri_all_orders n r h).2.2.1)
  rwa [Nat.cast_one, Nat.cast_ofNat, ← div_eq_mul_one_div, ← div_eq_mul_one_div] at h2

/-- substituting polynomials of total degree ≤ 1 (an affine map) for the variables does not raise the
    total degree: "degree ≤ order on the cell" means the same on the reference cell -/
theorem C02_affine_degree {d e : Nat} (p : MvPolynomial (Fin d) ℚ) (g : Fin d → MvPolynomial (Fin e) ℚ)
    (hg : ∀ i, (g i).totalDegree ≤ 1) :
    (MvPolynomial.bind₁ g p).totalDegree ≤ p.totalDegree := by
  rw [← MvPolynomial.aeval_eq_bind₁, MvPolynomial.aeval_def, MvPolynomial.eval₂_eq]
  refine MvPolynomial.totalDegree_finsetSum_le (fun s hs => ?_)
  refine le_trans (MvPolynomial.totalDegree_mul _ _) ?_
  rw [MvPolynomial.algebraMap_eq, MvPolynomial.totalDegree_C, zero_add]
  refine le_trans (MvPolynomial.totalDegree_finsetProd _ _) ?_
  refine le_trans ?_ (MvPolynomial.le_totalDegree hs)
  unfold Finsupp.sum
  refine Finset.sum_le_sum (fun i _ => ?_)
  refine le_trans (MvPolynomial.totalDegree_pow _ _) ?_
  exact (Nat.mul_le_mul_left _ (hg i)).trans_eq (Nat.mul_one _)

/-- the product of polynomials of total degree ≤ `n` and ≤ `m` has total degree ≤ `n + m`
    (term-list model).  `hpd`, `hqd` are not needed (see `degLe_mul`). -/
theorem C02_degLe_mul (p q : Poly) (n m d : Nat) (hp : Poly.degLe p n = true) (hq : Poly.degLe q m = true)
    (hpd : ∀ t ∈ p, t.2.length = d) (hqd : ∀ t ∈ q, t.2.length = d) :
    Poly.degLe (Poly.mul p q) (n + m) = true :=
  degLe_mul p q n m hp hq

/-- for every traced element with declared `maxdeg`, every product `φ_i φ_j` has total degree
    ≤ `2 · maxdeg`, the default integration order.  `hd` is not needed. -/
theorem C02_default_order (E : List Poly × Nat) (hE : E ∈ Gen.Shapes.degElements) (d : Nat)
    (hd : ∀ v ∈ E.1, ∀ t ∈ v, t.2.length = d)
    (i j : Nat) (hi : i < E.1.length) (hj : j < E.1.length) :
    Poly.degLe (Poly.mul (E.1.getD i []) (E.1.getD j [])) (2 * E.2) = true := by
  have hc := Gen.Shapes.degElements_ok E hE
  rw [Nat.two_mul]
  exact degLe_mul _ _ _ _ (checkDeg_getD E.1 E.2 hc i hi) (checkDeg_getD E.1 E.2 hc j hj)

example : det2 (0, 0) (1, 0) (0, 1) = 1 := by decide +kernel
example : det3 (0, 0, 0) (1, 0, 0) (0, 1, 0) (0, 0, 1) = 1 := by decide +kernel
example : cellDx [2, 3] [(1 : Rat) / 2, 1 / 2] = [[1, 1], [3 / 2, 3 / 2]] := by decide +kernel

end Skv.C02
