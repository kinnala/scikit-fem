import SkfemVerif.Model.Dofs
import SkfemVerif.Lemmas.Dofs
/-
C04  DOF numbering: gap-free, shared exactly along shared entities.

Model: Model/Dofs.lean (`dofNumber`, `dofTable`, `gatherRows`, `elementDofs`, `dofsN`, …) =
`Dofs.__init__`.  Tie: correspondence op `dofs.init` (all four tables, `element_dofs`, `N`
compared exactly for every mesh class × every exported element and wrappers).
-/
namespace Skv.C04

/-- the closed form of a table entry (`order='F'` reshape of `arange`) -/
theorem C04_table_entry (count n off a e : Nat) (ha : a < count) (he : e < n) :
    ((dofTable count n off).getD a []).getD e 0 = off + a + count * e := by
  rw [dofTable_getD count n off a e ha he]; rfl

/-- within a table a DOF number determines its entity and its position on the entity -/
theorem C04_dofNumber_injective (count off a e a' e' : Nat) (ha : a < count) (ha' : a' < count)
    (h : dofNumber count off a e = dofNumber count off a' e') : a = a' ∧ e = e' :=
  dofNumber_inj count off a e a' e' ha ha' h

/-- each table occupies the consecutive range `[off, off + count * n)` -/
theorem C04_table_range (count n off a e : Nat) (ha : a < count) (he : e < n) :
    off ≤ dofNumber count off a e ∧ dofNumber count off a e < off + count * n :=
  ⟨dofNumber_ge _ _ _ _, dofNumber_lt _ _ _ _ _ ha he⟩

/-- … and fills it: every number of the range is an entry -/
theorem C04_table_surjective (count n off x : Nat) (h1 : off ≤ x) (h2 : x < off + count * n) :
    ∃ a e, a < count ∧ e < n ∧ dofNumber count off a e = x :=
  dofNumber_surj count n off x h1 h2

/-- the four blocks are stacked without gap or overlap: nodal, edge, facet, interior -/
theorem C04_block_offsets (c : DofCounts) (tp : Topo) :
    offEdge c tp = c.nodal * tp.nverts
    ∧ offFacet c tp = offEdge c tp + (if useEdges c tp then c.edge * tp.nedges else 0)
    ∧ offInterior c tp = offFacet c tp + (if useFacets c then c.facet * tp.nfacets else 0)
    ∧ dofsTotal c tp = offInterior c tp + c.interior * tp.nt :=
  ⟨rfl, rfl, rfl, rfl⟩

/-- the entry of the per-cell table for connectivity row `itr`, local dof `a`, cell `k` is the table
    entry of the entity `conn[itr][k]` (order: all local dofs of row 0, then row 1, …) -/
theorem C04_gather_entry (count off : Nat) (conn : List (List Nat)) (itr a k : Nat)
    (hitr : itr < conn.length) (ha : a < count) (hk : k < (conn.getD itr []).length) :
    ((gatherRows count off conn).getD (itr * count + a) []).getD k 0
      = dofNumber count off a ((conn.getD itr []).getD k 0) :=
  gatherRows_getD count off conn itr a k hitr ha hk

theorem C04_gather_length (count off : Nat) (conn : List (List Nat)) :
    (gatherRows count off conn).length = conn.length * count :=
  gatherRows_length count off conn

/-- shared exactly along shared entities (one table): two per-cell entries coincide iff they are the
    same local dof of the same entity -/
theorem C04_share_iff (count off : Nat) (conn : List (List Nat)) (itr a k itr' a' k' : Nat)
    (hitr : itr < conn.length) (ha : a < count) (hk : k < (conn.getD itr []).length)
    (hitr' : itr' < conn.length) (ha' : a' < count) (hk' : k' < (conn.getD itr' []).length) :
    ((gatherRows count off conn).getD (itr * count + a) []).getD k 0
      = ((gatherRows count off conn).getD (itr' * count + a') []).getD k' 0
    ↔ a = a' ∧ (conn.getD itr []).getD k 0 = (conn.getD itr' []).getD k' 0 := by
  rw [gatherRows_getD count off conn itr a k hitr ha hk,
    gatherRows_getD count off conn itr' a' k' hitr' ha' hk']
  constructor
  · intro h
    exact dofNumber_inj count off _ _ _ _ ha ha' h
  · rintro ⟨rfl, h⟩
    rw [h]

/-- numbers of different kinds never coincide: a vertex number is below every edge number, an
    edge number below every facet number, a facet number below every interior number — stated
    for an element with edge DOFs on a 3-D mesh (`hue`); without edge DOFs the order nodal, facet,
    interior is `nodal_lt_facet`, `facet_lt_interior` of Lemmas/Dofs.lean.  `hg` is not needed. -/
theorem C04_kinds_disjoint (c : DofCounts) (tp : Topo) (a v b e d f g k : Nat)
    (ha : a < c.nodal) (hv : v < tp.nverts)
    (hb : b < c.edge) (he : e < tp.nedges) (hue : useEdges c tp = true)
    (hd : d < c.facet) (hf : f < tp.nfacets)
    (hg : g < c.interior) :
    dofNumber c.nodal 0 a v < dofNumber c.edge (offEdge c tp) b e
    ∧ dofNumber c.edge (offEdge c tp) b e < dofNumber c.facet (offFacet c tp) d f
    ∧ dofNumber c.facet (offFacet c tp) d f < dofNumber c.interior (offInterior c tp) g k :=
  ⟨nodal_lt_edge ha hv b e, edge_lt_facet hue hb he d f, facet_lt_interior hd hf g k⟩

/-- cell-interior DOFs belong to one cell only -/
theorem C04_interior_one_cell (c : DofCounts) (tp : Topo) (g k g' k' : Nat)
    (hg : g < c.interior) (hg' : g' < c.interior)
    (h : dofNumber c.interior (offInterior c tp) g k = dofNumber c.interior (offInterior c tp) g' k') :
    k = k' :=
  (dofNumber_inj c.interior (offInterior c tp) g k g' k' hg hg' h).2

/-- all numbers in the per-cell table are below the closed-form total when the connectivity is
    in range -/
theorem C04_bounded (c : DofCounts) (tp : Topo)
    (ht : ∀ row ∈ tp.t, ∀ v ∈ row, v < tp.nverts)
    (he : ∀ row ∈ tp.t2e, ∀ v ∈ row, v < tp.nedges)
    (hf : ∀ row ∈ tp.t2f, ∀ v ∈ row, v < tp.nfacets)
    (x : Nat) (hx : x ∈ (elementDofs c tp).flatten) : x < dofsTotal c tp := by
  have l2 := offFacet_le_offInterior c tp
  have l3 := offInterior_le_dofsTotal c tp
  rcases mem_elementDofs_flatten.mp hx with hx | ⟨hu, hx⟩ | ⟨⟨_, hu⟩, hx⟩ | hx
  · have := (gatherRows_bounded ht hx).2
    rw [Nat.zero_add] at this
    exact Nat.lt_of_lt_of_le this (Nat.le_trans (offEdge_le_offFacet c tp) (Nat.le_trans l2 l3))
  · have := (gatherRows_bounded he hx).2
    rw [← offFacet_of_useEdges hu] at this
    exact Nat.lt_of_lt_of_le this (Nat.le_trans l2 l3)
  · have := (gatherRows_bounded hf hx).2
    rw [← offInterior_of_pos (of_decide_eq_true hu)] at this
    exact Nat.lt_of_lt_of_le this l3
  · obtain ⟨a, e, ha, he', rfl⟩ := mem_dofTable_flatten.mp hx
    exact interior_lt ha he'

/-- gap-free: if every vertex, every edge and every facet occurs in some cell, every number
    `0 … total-1` occurs in the per-cell table.  `htrow`, `herow`, `hfrow` are not needed. -/
theorem C04_gap_free (c : DofCounts) (tp : Topo)
    (hdim : c.facet > 0 → tp.dim ≥ 2)
    (htrow : ∀ row ∈ tp.t, row.length = tp.nt)
    (herow : ∀ row ∈ tp.t2e, row.length = tp.nt)
    (hfrow : ∀ row ∈ tp.t2f, row.length = tp.nt)
    (hv : ∀ v < tp.nverts, ∃ row ∈ tp.t, v ∈ row)
    (he : ∀ e < tp.nedges, ∃ row ∈ tp.t2e, e ∈ row)
    (hf : ∀ f < tp.nfacets, ∃ row ∈ tp.t2f, f ∈ row)
    (x : Nat) (hx : x < dofsTotal c tp) : x ∈ (elementDofs c tp).flatten := by
  rw [mem_elementDofs_flatten]
  -- which of the four consecutive ranges holds `x`; a non-empty range means the block is in use
  rcases Nat.lt_or_ge x (offEdge c tp) with h1 | h1
  · exact Or.inl (gatherRows_covers hv (Nat.zero_le _) (by rwa [Nat.zero_add]))
  rcases Nat.lt_or_ge x (offFacet c tp) with h2 | h2
  · have hu : useEdges c tp = true := by
      cases h : useEdges c tp
      · rw [offFacet, h] at h2; exact absurd h2 (Nat.not_lt.mpr h1)
      · rfl
    exact Or.inr (Or.inl ⟨hu, gatherRows_covers he h1 (offFacet_of_useEdges hu ▸ h2)⟩)
  rcases Nat.lt_or_ge x (offInterior c tp) with h3 | h3
  · have hu : 0 < c.facet := by
      rcases Nat.eq_zero_or_pos c.facet with h | h
      · rw [offInterior, useFacets, h] at h3; exact absurd h3 (Nat.not_lt.mpr h2)
      · exact h
    exact Or.inr (Or.inr (Or.inl ⟨⟨hdim hu, decide_eq_true hu⟩,
      gatherRows_covers hf h2 (offInterior_of_pos hu ▸ h3)⟩))
  · exact Or.inr (Or.inr (Or.inr (mem_dofTable_flatten.mpr
      (dofNumber_surj c.interior tp.nt (offInterior c tp) x h3 hx))))

/-- P2 on two triangles sharing an edge (4 vertices, 5 facets) -/
example : elementDofs ⟨1, 0, 1, 0⟩
    { dim := 2, nverts := 4, nedges := 0, nfacets := 5, nt := 2,
      t := [[0, 1], [1, 2], [2, 3]], t2e := [], t2f := [[0, 2], [2, 4], [1, 3]] }
    = [[0, 1], [1, 2], [2, 3], [4, 6], [6, 8], [5, 7]] := by decide

end Skv.C04
