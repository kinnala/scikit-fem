import SkfemVerif.Model.Blocks
import SkfemVerif.Lemmas.Blocks
import SkfemVerif.Props.C01
import Mathlib.Data.List.Perm.Basic
import Mathlib.Algebra.BigOperators.Group.List.Basic
/-
C19  Vector, composite and block structures agree with their components.

Model: Model/Blocks.lean on top of Model/Dofs.lean (DOF tables) and Model/Assembly.lean (triplets,
`interp`, dense entries).  Tie: correspondence ops `blocks.*`, `coo.dot`, `coo.add` (exact integers /
rationals).  Interpolation and assembly are stated for any wrapper basis that `Wraps` its components.
-/
namespace Skv.C19
open Skv.Blocks

section
variable {K : Type} [CommRing K]

/-- `ElementVector.gbasis`: local function `i` is scalar function `i / dim` in component
    `i % dim` -/
theorem C19_vector_decode (dim i : Nat) : vecDecode dim i = (i % dim, i / dim) := by
  unfold vecDecode
  have := Nat.mod_add_div i dim
  congr 1
  omega

/-- **vector decode matches the row layout**: the per-cell DOF table of `ElementVector(elem, dim)`
    is `elem`'s table with every row replaced by the `dim` rows `d ↦ dim * d + n`, `n < dim` — so
    row `r` belongs to scalar function `r / dim`, component `r % dim`, as `vecDecode` computes -/
theorem C19_vector_layout (dim : Nat) (hd : 0 < dim) (c : DofCounts) (tp : Topo) :
    elementDofs (vecCounts dim c) tp = (elementDofs c tp).flatMap (vecRows dim) := by
  have h0 := gatherRows_vec dim c.nodal 0 tp.t
  rw [Nat.zero_mul] at h0
  unfold elementDofs interiorDofs
  rw [useEdges_vec dim hd, useFacets_vec dim hd, offEdge_vec, offFacet_vec dim hd,
    offInterior_vec dim hd, dofTable_eq_gatherRows, dofTable_eq_gatherRows]
  simp only [vecCounts, h0, gatherRows_vec, List.flatMap_append,
    apply_ite (fun l => List.flatMap (vecRows dim) l), List.flatMap_nil]

/-- row form of the previous theorem -/
theorem C19_vector_row (dim : Nat) (hd : 0 < dim) (c : DofCounts) (tp : Topo) (i : Nat)
    (hi : (vecDecode dim i).2 < (elementDofs c tp).length) :
    (elementDofs (vecCounts dim c) tp)[i]?
      = ((elementDofs c tp)[(vecDecode dim i).2]?).map
          (List.map (fun d => dim * d + (vecDecode dim i).1)) := by
  rw [C19_vector_layout dim hd, C19_vector_decode dim i] at *
  simp only at hi ⊢
  conv_lhs => rw [← Nat.div_add_mod' i dim]
  rw [getElem?_flatMap_uniform _ dim _ (fun row _ => by simp [vecRows]) (i / dim) (i % dim) hi
    (Nat.mod_lt _ hd)]
  simp [vecRows, hi, Nat.mod_lt _ hd]

def oneTet (dim : Nat) : Topo :=
  { dim := dim, nverts := 4, nedges := 6, nfacets := 4, nt := 1,
    t := [[0], [1], [2], [3]], t2e := [[0], [1], [2], [3], [4], [5]], t2f := [[0], [1], [2], [3]] }

/-- the published `Dofs.__init__` reads `element.dim`, for `ElementVector(elem, dim)` the number of
    components: a two-component quadratic field on a tetrahedron loses its edge rows (8 rows
    instead of 2 × 10) -/
theorem C19_dofs_dim_old_counterexample :
    (elementDofs (vecCounts 2 ⟨1, 1, 0, 0⟩) (oneTet 2)).length = 8
    ∧ (elementDofs (vecCounts 2 ⟨1, 1, 0, 0⟩) (oneTet 3)).length = 20
    ∧ ((elementDofs ⟨1, 1, 0, 0⟩ (oneTet 3)).flatMap (vecRows 2)).length = 20 := by
  decide

/-- **`split_indices()[n]` of a vector element is `d ↦ dim * d + n`** on the scalar element's own
    numbering `d < N_scalar` -/
theorem C19_split_vector (dim : Nat) (hd : 0 < dim) (c : DofCounts) (tp : Topo) (n : Nat)
    (hn : n < dim) :
    splitIndicesVector dim c tp n = (List.range (dofsTotal c tp)).map (fun d => dim * d + n) := by
  have b0 := flattenF_stride_dofTable c.nodal dim tp.nverts 0 n hn
  rw [Nat.zero_mul] at b0
  unfold splitIndicesVector nodalDofs edgeDofs facetDofs interiorDofs dofsTotal
  dsimp only
  rw [useEdges_vec dim hd, useFacets_vec dim hd, offEdge_vec, offFacet_vec dim hd, offInterior_vec dim hd]
  simp only [vecCounts]
  -- each table has `cnt * dim` rows from offset `off * dim` (`cnt = 0` if it is not there): block
  -- `p ↦ dim * (off + p) + n`
  simp only [b0, ite_dofTable_mul, flattenF_stride_dofTable _ _ _ _ _ hn]
  unfold offInterior offFacet offEdge
  rw [range_add_map, range_add_map, range_add_map]
  simp only [Nat.zero_add, ite_mul, Nat.zero_mul]

/-- the vector split indices of different components are disjoint and together cover the
    wrapper's DOF numbers -/
theorem C19_split_vector_partition (dim : Nat) (hd : 0 < dim) (c : DofCounts) (tp : Topo) (x : Nat)
    (hx : x < dofsTotal (vecCounts dim c) tp) :
    x ∈ splitIndicesVector dim c tp (x % dim)
      ∧ ∀ n < dim, x ∈ splitIndicesVector dim c tp n → n = x % dim := by
  rw [dofsTotal_vec dim hd] at hx
  constructor
  · rw [C19_split_vector dim hd c tp _ (Nat.mod_lt _ hd)]
    simp only [List.mem_map, List.mem_range]
    refine ⟨x / dim, ?_, Nat.div_add_mod x dim⟩
    rw [Nat.div_lt_iff_lt_mul hd]; exact hx
  · intro n hn hmem
    rw [C19_split_vector dim hd c tp n hn] at hmem
    simp only [List.mem_map, List.mem_range] at hmem
    obtain ⟨d, _, rfl⟩ := hmem
    rw [Nat.mul_add_mod, Nat.mod_eq_of_lt hn]

/-- the rows of the components tile the rows of the wrapper's tables -/
theorem C19_component_rows (cs : List DofCounts) (k t : Nat) (hk : k < cs.length) :
    (compOffsets cs k).get t + (cs[k]).get t ≤ (sumCounts cs).get t
    ∧ (compOffsets cs (k + 1)).get t = (compOffsets cs k).get t + (cs[k]).get t := by
  refine ⟨comp_rows_le cs k t hk, ?_⟩
  rw [compOffsets_get, compOffsets_get, List.take_add_one]
  simp [hk]

/-- **`split_indices()[k]` of a composite element renumbers**: at the component's own number of
    the DOF (kind `t`, `a`-th DOF of entity `e`) stands the wrapper's number of the DOF (kind `t`,
    `(o + a)`-th DOF of entity `e`), `o` = DOFs of that kind of the earlier components.
    Kinds: 0 vertex, 1 edge, 2 facet, 3 cell. -/
theorem C19_split_is_renumbering (cs : List DofCounts) (tp : Topo) (k : Nat) (hk : k < cs.length)
    (hw : WellFormed (sumCounts cs) tp) (t a e : Nat) (ht : t < 4) (ha : a < (cs[k]).get t)
    (he : e < nentOf tp t) :
    (splitIndicesComposite cs tp k)[dofNumber ((cs[k]).get t) (offOf (cs[k]) tp t) a e]?
      = some (dofNumber ((sumCounts cs).get t) (offOf (sumCounts cs) tp t)
          ((compOffsets cs k).get t + a) e) := by
  rw [splitIndicesComposite_blocks cs tp k hk hw]
  -- the component's own number = length of the blocks of the earlier kinds + place in block `t`
  refine (congrArg (_[·]?) ?_).trans ((getElem?_flatMap_range_add 4 _ t (e * (cs[k]).get t + a) ht
    (by rw [length_flattenF_slice (comp_rows_le cs k t hk)]; exact mul_add_lt_mul ha he)).trans
      (getElem?_flattenF_slice _ _ _ _ _ a e (comp_rows_le cs k t hk) ha he))
  rw [offOf_eq_sum (wellFormed_comp cs tp k hk hw) t ht]
  simp only [length_flattenF_slice (comp_rows_le cs k _ hk), Nat.mul_comm (nentOf tp _), dofNumber]
  ring

/-- the split index list of component `k` is as long as the component's own DOF count -/
theorem C19_split_length (cs : List DofCounts) (tp : Topo) (k : Nat) (hk : k < cs.length) :
    (splitIndicesComposite cs tp k).length = dofsTotal (cs[k]) tp := by
  have h0 := comp_rows_le cs k 0 hk
  have h1 := comp_rows_le cs k 1 hk
  have h2 := comp_rows_le cs k 2 hk
  have h3 := comp_rows_le cs k 3 hk
  simp only [DofCounts.get] at h0 h1 h2 h3
  -- no well-formedness needed: a kind the wrapper does not use is not used by the component either
  unfold splitIndicesComposite
  simp only [getD_eq_getElem cs _ hk, List.length_append, nodalDofs, edgeDofs, facetDofs, interiorDofs,
    length_flattenF_sliceRows _ _ _ _ _ _ h1, length_flattenF_sliceRows _ _ _ _ _ _ h2,
    length_flattenF_slice h0, length_flattenF_slice h3]
  rw [useEdges_ite _ _ tp _ (by omega), useFacets_ite _ _ _ (by omega), Nat.mul_comm tp.nverts,
    Nat.mul_comm tp.nt]
  rfl

/-- **the split index lists are jointly injective**: a wrapper DOF number determines the component
    and the component's own DOF number.  That every entry is `< N` is stated by no theorem. -/
theorem C19_split_injective (cs : List DofCounts) (tp : Topo) (hw : WellFormed (sumCounts cs) tp)
    (k k' d d' : Nat) (hk : k < cs.length) (hk' : k' < cs.length)
    (hd : d < dofsTotal (cs[k]) tp) (hd' : d' < dofsTotal (cs[k']) tp)
    (h : (splitIndicesComposite cs tp k).getD d 0 = (splitIndicesComposite cs tp k').getD d' 0) :
    k = k' ∧ d = d' := by
  obtain ⟨t, ht, a, ha, e, he, rfl⟩ := dof_decompose (cs[k]) tp (wellFormed_comp cs tp k hk hw) d hd
  obtain ⟨t', ht', a', ha', e', he', rfl⟩ :=
    dof_decompose (cs[k']) tp (wellFormed_comp cs tp k' hk' hw) d' hd'
  rw [getD_eq_of_getElem?_eq_some (C19_split_is_renumbering cs tp k hk hw t a e ht ha he),
    getD_eq_of_getElem?_eq_some (C19_split_is_renumbering cs tp k' hk' hw t' a' e' ht' ha' he')] at h
  have hr := comp_rows_le cs k t hk
  have hr' := comp_rows_le cs k' t' hk'
  obtain rfl := dof_kind_unique (sumCounts cs) tp hw ht ht' (by omega) he (by omega) he' h
  obtain ⟨hrow, rfl⟩ := dofNumber_inj _ _ _ _ _ _ (by omega) (by omega) h
  rw [compOffsets_get, compOffsets_get] at hrow
  obtain ⟨rfl, rfl⟩ := block_unique (cs.map (fun c => c.get t)) (k := k) (k' := k') (by simpa using hk)
    (by simpa using hk') (by simpa using ha) (by simpa using ha') hrow
  exact ⟨rfl, rfl⟩

/-- `N` of the wrapper is the sum of the lengths of the split index lists -/
theorem C19_split_total (cs : List DofCounts) (tp : Topo) (hw : WellFormed (sumCounts cs) tp) :
    dofsTotal (sumCounts cs) tp
      = ((List.range cs.length).map (fun k => (splitIndicesComposite cs tp k).length)).sum := by
  rw [dofsTotal_eq_sum hw, ← sum_kindSizes, ← map_getD_range cs ⟨0, 0, 0, 0⟩]
  refine congrArg List.sum (List.map_congr_left fun k hk => ?_)
  have hk' := List.mem_range.1 hk
  rw [C19_split_length cs tp k hk', dofsTotal_eq_sum (wellFormed_comp cs tp k hk' hw),
    getD_eq_getElem cs _ hk']

/-- **closed form of `_deduce_bfun`**: the local function in the block of kind `t`, local entity
    `itr`, position `o + a` (component `n`'s `a`-th DOF of that entity) is the function in the same
    (kind, entity, DOF-of-entity) position of component `n`'s own local ordering -/
theorem C19_deduce_bfun (cs : List DofCounts) (r : RefCounts) (t itr n a : Nat) (ht : t < 4)
    (hitr : itr < r.get t) (hn : n < cs.length) (ha : a < (cs[n]).get t) :
    deduceBfun cs r (rowBase (sumCounts cs) r t
        + (itr * (sumCounts cs).get t + ((compOffsets cs n).get t + a)))
      = (n, rowBase (cs[n]) r t + (itr * (cs[n]).get t + a)) := by
  -- `ns` is a block per kind, a block the pattern once per entity, the pattern a run `[n] * cnt_n` per
  -- component: the position is located level by level, and so are the `n`s before it
  have hnl : n < (cs.map fun c => c.get t).length := by simpa using hn
  have h := (occurs_kindPattern hnl (by simpa using ha)).replicate_flatten hitr
  rw [kindPattern_length, kindPattern_count _ n hnl, List.getElem_map, ← get_sumCounts,
    ← compOffsets_get] at h
  have h := Occurs.flatMap (g := nsBlock cs r) ht h
  rw [nsPrefix_sizes, nsPrefix_count cs r t n hn, ← bfunNs_eq] at h
  unfold deduceBfun rankAt
  rw [getD_eq_of_getElem?_eq_some h.1 0, h.2]

/-- **`_deduce_bfun` agrees with the per-cell layout**: for `i` the row of (kind `t`, local entity
    `itr`, component `n`'s `a`-th DOF of the entity), row `i` of the wrapper's `element_dofs`, with
    `(n, ind) = _deduce_bfun(i)`, is row `ind` of component `n`'s own `element_dofs` renamed through
    `split_indices()[n]` -/
theorem C19_deduce_bfun_layout (cs : List DofCounts) (tp : Topo) (r : RefCounts)
    (hw : WellFormed (sumCounts cs) tp) (hc : Compatible tp r)
    (hconn : ∀ t < 4, ∀ row ∈ connOf tp t, ∀ e ∈ row, e < nentOf tp t)
    (t itr n a : Nat) (ht : t < 4) (hitr : itr < r.get t) (hn : n < cs.length)
    (ha : a < (cs[n]).get t) :
    let i := rowBase (sumCounts cs) r t
      + (itr * (sumCounts cs).get t + ((compOffsets cs n).get t + a))
    (deduceBfun cs r i).1 = n ∧
    (elementDofs (sumCounts cs) tp)[i]?
      = ((elementDofs (cs[n]) tp)[(deduceBfun cs r i).2]?).map
          (List.map (fun d => (splitIndicesComposite cs tp n).getD d 0))
    ∧ (deduceBfun cs r i).2 < (elementDofs (cs[n]) tp).length := by
  intro i
  have hle := comp_rows_le cs n t hn
  have hrow := elementDofs_row (cs[n]) tp r (wellFormed_comp cs tp n hn hw) hc t itr a ht hitr ha
  rw [C19_deduce_bfun cs r t itr n a ht hitr hn ha]
  refine ⟨rfl, ?_, (List.getElem?_eq_some_iff.1 hrow).1⟩
  -- both rows are gathered from row `itr` of the connectivity; entry by entry `split_indices`
  rw [elementDofs_row (sumCounts cs) tp r hw hc t itr _ ht hitr (by omega), hrow, Option.map_some,
    List.map_map]
  refine congrArg some (List.map_congr_left (fun e he => ?_))
  rw [Function.comp, getD_eq_of_getElem?_eq_some (C19_split_is_renumbering cs tp n hn hw t a e ht ha
    (hconn t ht _ (getD_mem _ [] (connOf_length tp r hc t ▸ hitr)) e he))]

/-- `ns` of `_deduce_bfun` has as many entries as the wrapper has local functions, and component
    `n` occurs `Nbfun_n` times -/
theorem C19_deduce_bfun_counts (cs : List DofCounts) (r : RefCounts) (n : Nat) (hn : n < cs.length) :
    (bfunNs cs r).length = nbfun (sumCounts cs) r ∧ (bfunNs cs r).count n = nbfun (cs[n]) r :=
  bfunNs_eq cs r ▸ ⟨nsPrefix_length cs r 4, nsPrefix_count cs r 4 n hn⟩

/-- `dec` lists every pair (component `n < Kc`, local function `p < Nb n`) exactly once over the
    local functions `j < NbW` of the wrapper (stated as the change of summation variables) -/
def Reindexes (K : Type) [CommRing K] (NbW Kc : Nat) (Nb : Nat → Nat) (dec : Nat → Nat × Nat) : Prop :=
  ∀ G : Nat → Nat → K, ∑ j ∈ Finset.range NbW, G (dec j).1 (dec j).2
    = ∑ n ∈ Finset.range Kc, ∑ p ∈ Finset.range (Nb n), G n p

theorem Reindexes.pair {NuW Ku NvW Kv : Nat} {Nu Nv : Nat → Nat} {decU decV : Nat → Nat × Nat}
    (hU : Reindexes K NuW Ku Nu decU) (hV : Reindexes K NvW Kv Nv decV) (H : Nat → Nat → Nat → Nat → K) :
    ∑ j ∈ Finset.range NuW, ∑ i ∈ Finset.range NvW, H (decU j).1 (decU j).2 (decV i).1 (decV i).2
      = ∑ n ∈ Finset.range Ku, ∑ m ∈ Finset.range Kv, ∑ p ∈ Finset.range (Nu n),
          ∑ p' ∈ Finset.range (Nv m), H n p m p' :=
  (Finset.sum_congr rfl fun j _ => hV (H (decU j).1 (decU j).2)).trans
    ((hU fun n p => ∑ m ∈ Finset.range Kv, ∑ p' ∈ Finset.range (Nv m), H n p m p').trans
      (Finset.sum_congr rfl fun _ _ => Finset.sum_comm))

/-- `_deduce_bfun` of a composite element enumerates (component, function of the component) -/
theorem C19_reindex_composite (cs : List DofCounts) (r : RefCounts) :
    Reindexes K (nbfun (sumCounts cs) r) cs.length (fun n => nbfun (cs.getD n ⟨0, 0, 0, 0⟩) r)
      (deduceBfun cs r) := by
  intro G
  have h := sum_rank_reindex (bfunNs cs r) cs.length (fun x hx => mem_bfunNs hx) G
  rw [show (bfunNs cs r).length = nbfun (sumCounts cs) r from bfunNs_eq cs r ▸ nsPrefix_length cs r 4] at h
  refine h.trans (Finset.sum_congr rfl (fun n hn => ?_))
  have hn' := Finset.mem_range.1 hn
  show _ = ∑ p ∈ Finset.range (nbfun (cs.getD n _) r), G n p
  rw [(C19_deduce_bfun_counts cs r n hn').2, getD_eq_getElem cs _ hn']

/-- the decoding of `ElementVector` enumerates (component `n < dim`, scalar function `p < Nb`) -/
theorem C19_reindex_vector (dim Nb : Nat) (hd : 0 < dim) :
    Reindexes K (Nb * dim) dim (fun _ => Nb) (vecDecode dim) := by
  -- inverse: (component `n`, scalar function `p`) ↦ `p * dim + n`
  refine fun G => sum_reindex_of_inverse _ _ _ _ (fun n p => p * dim + n) ?_ ?_ G
  · intro j hj
    rw [C19_vector_decode]
    exact ⟨Nat.mod_lt _ hd, (Nat.div_lt_iff_lt_mul hd).2 hj, Nat.div_add_mod' j dim⟩
  · intro n hn p hp
    refine ⟨mul_add_lt_mul hn hp, ?_⟩
    rw [C19_vector_decode, Nat.mul_add_mod_of_lt hn, mul_add_div_of_lt hn]

/-- the stacking of `CompositeBasis` enumerates (basis `n`, function `p < Nbfun_n`) -/
theorem C19_reindex_stack (nbs : List Nat) :
    Reindexes K nbs.sum nbs.length (fun n => nbs.getD n 0) (stackDecode nbs) := by
  -- inverse: (basis `n`, function `p`) ↦ `stackOffset nbs n + p`
  refine fun G => sum_reindex_of_inverse _ _ _ _ (fun n p => stackOffset nbs n + p) ?_ ?_ G
  · intro r hr
    obtain ⟨n, hn, p, hp, rfl⟩ := exists_block_of_lt_sum nbs hr
    rw [show (nbs.take n).sum = stackOffset nbs n from rfl, stackDecode_offset nbs n p hn hp]
    exact ⟨hn, by rwa [getD_eq_getElem nbs 0 hn], rfl⟩
  · intro n hn p hp
    have hp' : p < nbs[n] := by rwa [getD_eq_getElem nbs 0 hn] at hp
    exact ⟨sum_take_add_lt nbs hn hp', stackDecode_offset nbs n p hn hp'⟩

/-- a wrapper basis made of component bases: local function `j` of the wrapper is function
    `(dec j).2` of component `(dec j).1` (in the wrapper's field layout: zero in the other
    components' slots), and its DOF numbers are the component's renamed by `σ n`
    (`split_indices()[n]`).  Trusted for the implementation to the correspondence ops
    `blocks.deduce_bfun-layout`, `blocks.vec_decode`, `blocks.stack_decode`; `C19_deduce_bfun_layout`
    and `C19_vector_row` prove the DOF part from the DOF tables. -/
structure Wraps (K : Type) [CommRing K] (NbW Kc : Nat) (Nb : Nat → Nat) (dec : Nat → Nat × Nat)
    (σ : Nat → Nat → Nat) (dofs : Nat → Nat → Nat → Nat) (B : Nat → BasisData K)
    (dofsW : Nat → Nat → Nat) (bW : BasisData K) : Prop where
  reindex : Reindexes K NbW Kc Nb dec
  dofs_eq : ∀ j < NbW, ∀ k, dofsW j k = σ (dec j).1 (dofs (dec j).1 (dec j).2 k)
  basis_eq : ∀ j < NbW, ∀ k q, bW j k q = B (dec j).1 (dec j).2 k q

section Interp
variable {NbW Kc : Nat} {Nb : Nat → Nat} {dec : Nat → Nat × Nat} {σ : Nat → Nat → Nat}
  {dofs : Nat → Nat → Nat → Nat} {B : Nat → BasisData K} {dofsW : Nat → Nat → Nat} {bW : BasisData K}

/-- **split + interpolate each component = interpolate the whole** (all field attributes at once:
    an equation between samples) -/
theorem C19_interpolate_split (hW : Wraps K NbW Kc Nb dec σ dofs B dofsW bW) (x : Nat → K)
    (k q : Nat) :
    interp NbW x dofsW bW k q
      = ∑ n ∈ Finset.range Kc, interp (Nb n) (fun d => x (σ n d)) (dofs n) (B n) k q := by
  funext c
  rw [Finset.sum_apply, interp_apply]
  refine ((Finset.sum_congr rfl fun j hj => ?_).trans
    (hW.reindex fun n p => x (σ n (dofs n p k)) * B n p k q c)).trans ?_
  · have hj' := Finset.mem_range.1 hj
    rw [hW.dofs_eq j hj' k, hW.basis_eq j hj' k q]
  · rfl

/-- in a slot `c` of component `n` (where the other components' functions vanish) the whole is the
    interpolation of component `n` alone with the split coefficient vector `x[split_indices[n]]` -/
theorem C19_interpolate_component (hW : Wraps K NbW Kc Nb dec σ dofs B dofsW bW) (x : Nat → K)
    (k q n c : Nat) (hn : n < Kc) (hz : ∀ m, m ≠ n → ∀ p, B m p k q c = 0) :
    interp NbW x dofsW bW k q c = interp (Nb n) (fun d => x (σ n d)) (dofs n) (B n) k q c := by
  rw [C19_interpolate_split hW, Finset.sum_apply, Finset.sum_eq_single_of_mem n (Finset.mem_range.2 hn)]
  · intro m _ hm
    rw [interp_apply]
    exact Finset.sum_eq_zero fun p _ => by rw [hz m hm p, mul_zero]

end Interp

section Block
variable {NuW Ku : Nat} {Nu : Nat → Nat} {decU : Nat → Nat × Nat} {σu : Nat → Nat → Nat}
  {udofs : Nat → Nat → Nat → Nat} {UB : Nat → BasisData K} {udofsW : Nat → Nat → Nat}
  {ubW : BasisData K}
  {NvW Kv : Nat} {Nv : Nat → Nat} {decV : Nat → Nat × Nat} {σv : Nat → Nat → Nat}
  {vdofs : Nat → Nat → Nat → Nat} {VB : Nat → BasisData K} {vdofsW : Nat → Nat → Nat}
  {vbW : BasisData K}

/-- **block structure, weak form**: `vᵀ A u` on the wrapper bases is the sum over the blocks
    (trial component `n`, test component `m`) of the separately assembled component forms acting
    on the split vectors `u ∘ σu n`, `v ∘ σv m`; no linearity of `f` is needed (the triplets are
    only renamed) -/
theorem C19_block_action (hU : Wraps K NuW Ku Nu decU σu udofs UB udofsW ubW)
    (hV : Wraps K NvW Kv Nv decV σv vdofs VB vdofsW vbW)
    (nt nq : Nat) (f : Sample K → Sample K → Sample K → K) (w : Nat → Nat → Sample K)
    (dx : Nat → Nat → K) (u v : Nat → K) :
    actionBil (bilinearTriplets NuW NvW nt nq f ubW vbW w dx udofsW vdofsW) u v
      = ∑ n ∈ Finset.range Ku, ∑ m ∈ Finset.range Kv,
          actionBil (bilinearTriplets (Nu n) (Nv m) nt nq f (UB n) (VB m) w dx (udofs n) (vdofs m))
            (fun d => u (σu n d)) (fun d => v (σv m d)) := by
  rw [actionBil_bilinearTriplets]
  -- the summand in terms of (component, function) of trial and test
  refine ((Finset.sum_congr rfl fun j hj => Finset.sum_congr rfl fun i hi =>
    Finset.sum_congr rfl fun k _ => ?_).trans (hU.reindex.pair hV.reindex fun n p m p' =>
      ∑ k ∈ Finset.range nt, v (σv m (vdofs m p' k))
        * kernelBil nq f (UB n) (VB m) w dx p p' k * u (σu n (udofs n p k)))).trans ?_
  · have hj' := Finset.mem_range.1 hj
    have hi' := Finset.mem_range.1 hi
    simp only [kernelBil_eq_sum, hU.dofs_eq j hj', hV.dofs_eq i hi', hU.basis_eq j hj', hV.basis_eq i hi']
  · refine Finset.sum_congr rfl fun n _ => Finset.sum_congr rfl fun m _ => ?_
    rw [actionBil_bilinearTriplets]

/-- **block structure, matrix form**: the dense matrix on the wrapper numbering has, at (row
    `σv m r`, column `σu n c`), the entry `(r, c)` of the separately assembled block (trial
    component `n`, test component `m`), for `σu`, `σv` injective as maps (component, component
    DOF) ↦ wrapper DOF on the DOF ranges `NdU n`, `NdV m` -/
theorem C19_block_matrix (hU : Wraps K NuW Ku Nu decU σu udofs UB udofsW ubW)
    (hV : Wraps K NvW Kv Nv decV σv vdofs VB vdofsW vbW)
    (nt nq : Nat) (f : Sample K → Sample K → Sample K → K) (w : Nat → Nat → Sample K)
    (dx : Nat → Nat → K) (NdU NdV : Nat → Nat)
    (hdu : ∀ n < Ku, ∀ p < Nu n, ∀ k < nt, udofs n p k < NdU n)
    (hdv : ∀ m < Kv, ∀ p < Nv m, ∀ k < nt, vdofs m p k < NdV m)
    (hσu : ∀ n < Ku, ∀ n' < Ku, ∀ d < NdU n, ∀ d' < NdU n', σu n d = σu n' d' → n = n' ∧ d = d')
    (hσv : ∀ m < Kv, ∀ m' < Kv, ∀ d < NdV m, ∀ d' < NdV m', σv m d = σv m' d' → m = m' ∧ d = d')
    (n m c r : Nat) (hn : n < Ku) (hm : m < Kv) (hc : c < NdU n) (hr : r < NdV m) :
    denseEntry (bilinearTriplets NuW NvW nt nq f ubW vbW w dx udofsW vdofsW) (σv m r) (σu n c)
      = denseEntry (bilinearTriplets (Nu n) (Nv m) nt nq f (UB n) (VB m) w dx (udofs n) (vdofs m))
          r c := by
  -- a dense entry is the action on two unit vectors; read through `σu n'`, `σv m'` the unit vectors at
  -- `σu n c`, `σv m r` are the unit vectors at `c`, `r` for `(n', m') = (n, m)` and vanish on the DOFs
  -- of every other block, so only block `(n, m)` of `C19_block_action` is left
  rw [← actionBil_unit, C19_block_action hU hV, ← actionBil_unit,
    Finset.sum_eq_single_of_mem n (Finset.mem_range.2 hn),
    Finset.sum_eq_single_of_mem m (Finset.mem_range.2 hm)]
  · refine actionBil_congr _ _ _ _ _ fun t ht => ?_
    obtain ⟨j, hj, i, hi, k, hk, rfl⟩ := mem_bilinearTriplets.1 ht
    exact ⟨if_congr ⟨fun he => (hσu n hn n hn _ (hdu n hn j hj k hk) c hc he).2, congrArg (σu n)⟩
        rfl rfl,
      if_congr ⟨fun he => (hσv m hm m hm _ (hdv m hm i hi k hk) r hr he).2, congrArg (σv m)⟩
        rfl rfl⟩
  · intro m' hm' hne
    refine actionBil_zero_right _ _ _ fun t ht => ?_
    obtain ⟨j, hj, i, hi, k, hk, rfl⟩ := mem_bilinearTriplets.1 ht
    have hm'' := Finset.mem_range.1 hm'
    exact if_neg fun he => hne (hσv m' hm'' m hm _ (hdv m' hm'' i hi k hk) r hr he).1
  · intro n' hn' hne
    refine Finset.sum_eq_zero fun m' _ => actionBil_zero_left _ _ _ fun t ht => ?_
    obtain ⟨j, hj, i, hi, k, hk, rfl⟩ := mem_bilinearTriplets.1 ht
    have hn'' := Finset.mem_range.1 hn'
    exact if_neg fun he => hne (hσu n' hn'' n hn _ (hdu n' hn'' j hj k hk) c hc he).1

/-- **block matrix of a composite element**: `C19_block_matrix` with `σ` = `split_indices()` of the
    trial and of the test wrapper (different component lists allowed); their injectivity is
    `C19_split_injective` -/
theorem C19_block_matrix_composite (csU csV : List DofCounts) (tp : Topo)
    (hwU : WellFormed (sumCounts csU) tp) (hwV : WellFormed (sumCounts csV) tp)
    (hU : Wraps K NuW csU.length Nu decU (fun n d => (splitIndicesComposite csU tp n).getD d 0)
      udofs UB udofsW ubW)
    (hV : Wraps K NvW csV.length Nv decV (fun m d => (splitIndicesComposite csV tp m).getD d 0)
      vdofs VB vdofsW vbW)
    (nt nq : Nat) (f : Sample K → Sample K → Sample K → K) (w : Nat → Nat → Sample K)
    (dx : Nat → Nat → K)
    (hdu : ∀ n < csU.length, ∀ p < Nu n, ∀ k < nt,
      udofs n p k < dofsTotal (csU.getD n ⟨0, 0, 0, 0⟩) tp)
    (hdv : ∀ m < csV.length, ∀ p < Nv m, ∀ k < nt,
      vdofs m p k < dofsTotal (csV.getD m ⟨0, 0, 0, 0⟩) tp)
    (n m c r : Nat) (hn : n < csU.length) (hm : m < csV.length)
    (hc : c < dofsTotal (csU.getD n ⟨0, 0, 0, 0⟩) tp) (hr : r < dofsTotal (csV.getD m ⟨0, 0, 0, 0⟩) tp) :
    denseEntry (bilinearTriplets NuW NvW nt nq f ubW vbW w dx udofsW vdofsW)
        ((splitIndicesComposite csV tp m).getD r 0) ((splitIndicesComposite csU tp n).getD c 0)
      = denseEntry (bilinearTriplets (Nu n) (Nv m) nt nq f (UB n) (VB m) w dx (udofs n) (vdofs m))
          r c := by
  exact C19_block_matrix hU hV nt nq f w dx
    (fun n => dofsTotal (csU.getD n ⟨0, 0, 0, 0⟩) tp) (fun m => dofsTotal (csV.getD m ⟨0, 0, 0, 0⟩) tp)
    hdu hdv
    (fun a ha a' ha' d hd d' hd' he =>
      C19_split_injective csU tp hwU a a' d d' ha ha' (getD_eq_getElem csU _ ha ▸ hd)
        (getD_eq_getElem csU _ ha' ▸ hd') he)
    (fun a ha a' ha' d hd d' hd' he =>
      C19_split_injective csV tp hwV a a' d d' ha ha' (getD_eq_getElem csV _ ha ▸ hd)
        (getD_eq_getElem csV _ ha' ▸ hd') he)
    n m c r hn hm hc hr

/-- **block matrix of a vector element**: `σ n d = dim * d + n` (`C19_split_vector`) -/
theorem C19_block_matrix_vector (dimU dimV NdU NdV : Nat)
    (hU : Wraps K NuW dimU Nu decU (fun n d => dimU * d + n) udofs UB udofsW ubW)
    (hV : Wraps K NvW dimV Nv decV (fun m d => dimV * d + m) vdofs VB vdofsW vbW)
    (nt nq : Nat) (f : Sample K → Sample K → Sample K → K) (w : Nat → Nat → Sample K)
    (dx : Nat → Nat → K)
    (hdu : ∀ n < dimU, ∀ p < Nu n, ∀ k < nt, udofs n p k < NdU)
    (hdv : ∀ m < dimV, ∀ p < Nv m, ∀ k < nt, vdofs m p k < NdV)
    (n m c r : Nat) (hn : n < dimU) (hm : m < dimV) (hc : c < NdU) (hr : r < NdV) :
    denseEntry (bilinearTriplets NuW NvW nt nq f ubW vbW w dx udofsW vdofsW)
        (dimV * r + m) (dimU * c + n)
      = denseEntry (bilinearTriplets (Nu n) (Nv m) nt nq f (UB n) (VB m) w dx (udofs n) (vdofs m))
          r c := by
  have inj : ∀ dim a a' d d' : Nat, a < dim → a' < dim → dim * d + a = dim * d' + a' → a = a' ∧ d = d' :=
    fun dim a a' d d' ha ha' he =>
      (mul_add_inj ha' ha (by rw [Nat.mul_comm d, Nat.mul_comm d']; exact he)).symm
  exact C19_block_matrix hU hV nt nq f w dx (fun _ => NdU) (fun _ => NdV) hdu hdv
    (fun a ha a' ha' d _ d' _ he => inj dimU a a' d d' ha ha' he)
    (fun a ha a' ha' d _ d' _ he => inj dimV a a' d d' ha ha' he)
    n m c r hn hm hc hr

end Block

/-- **`asm` over a list of bases = sum of the tensors**, as far as it is stated: the dense tensor
    of concatenated triplet lists is the sum of their dense tensors.  That `COOData.__add__`
    concatenates is `C19_coo_add`; the `sum(...)` over the list of bases is not modelled. -/
theorem C19_asm_sum (Ts : List (List (Nat × Nat × K))) (r c : Nat) :
    denseEntry Ts.flatten r c = (Ts.map (fun T => denseEntry T r c)).sum :=
  denseEntry_flatten Ts r c

/-- **assembly over a partition of the cells = assembly over the whole mesh**: `parts` any list
    of cell lists whose concatenation is a rearrangement of `0 … nt-1` -/
theorem C19_asm_partition (parts : List (List Nat)) (nt : Nat)
    (hp : parts.flatten.Perm (List.range nt))
    (Nu Nv nq : Nat) (f : Sample K → Sample K → Sample K → K)
    (ub vb : BasisData K) (w : Nat → Nat → Sample K) (dx : Nat → Nat → K)
    (udofs vdofs : Nat → Nat → Nat) (r c : Nat) :
    denseEntry ((parts.map (fun cells =>
        bilinearTripletsOn cells Nu Nv nq f ub vb w dx udofs vdofs)).flatten) r c
      = denseEntry (bilinearTriplets Nu Nv nt nq f ub vb w dx udofs vdofs) r c := by
  -- both sides are sums of the cells' contributions `cellEntry`, over `parts.flatten` and over `range nt`
  rw [C19_asm_sum, List.map_map, denseEntry_bilinearTriplets_cells, ← sum_map_range,
    ← (hp.map _).sum_eq, List.map_flatten, List.sum_flatten, List.map_map]
  exact congrArg List.sum (List.map_congr_left fun cells _ =>
    denseEntry_bilinearTripletsOn Nu Nv nq f ub vb w dx udofs vdofs r c cells)

omit [CommRing K] in
/-- **`COOData.__add__`** concatenates the triplets (for well-formed operands) and takes the
    entrywise maximum of the shapes -/
theorem C19_coo_add (a b : Coo K) (h1 : a.rows.length = a.cols.length)
    (h2 : a.cols.length = a.data.length) :
    (a.add b).triplets = a.triplets ++ b.triplets
    ∧ (a.add b).shape = (max a.shape.1 b.shape.1, max a.shape.2 b.shape.2) := by
  refine ⟨?_, rfl⟩
  unfold Coo.add Coo.triplets
  simp only
  rw [List.zip_append h2, List.zip_append]
  rw [h1, List.length_zip, h2, Nat.min_self]

/-- … hence the dense tensor (and the product with a vector) of a sum is the sum -/
theorem C19_coo_add_dense (a b : Coo K) (h1 : a.rows.length = a.cols.length)
    (h2 : a.cols.length = a.data.length) (r c : Nat) (x : Nat → K) :
    denseEntry (a.add b).triplets r c = denseEntry a.triplets r c + denseEntry b.triplets r c
    ∧ cooDot (a.add b).triplets x r = cooDot a.triplets x r + cooDot b.triplets x r := by
  rw [(C19_coo_add a b h1 h2).1]
  exact ⟨denseEntry_append _ _ r c, cooDot_append _ _ x r⟩

/-- **`dot` = dense matrix-vector product** (`toarray() @ x`), column indices `< Nc` -/
theorem C19_coo_dot (T : List (Nat × Nat × K)) (Nc : Nat) (hT : ∀ t ∈ T, t.2.1 < Nc)
    (x : Nat → K) (r : Nat) :
    cooDot T x r = ∑ c ∈ Finset.range Nc, denseEntry T r c * x c :=
  cooDot_eq_dense T Nc hT x r

/-- `dot(x, D)` keeps `x` on `D` and is the product elsewhere -/
theorem C19_coo_dot_D (T : List (Nat × Nat × K)) (x : Nat → K) (D : List Nat) (r : Nat) :
    (r ∈ D → cooDotD T x D r = x r) ∧ (r ∉ D → cooDotD T x D r = cooDot T x r) := by
  unfold cooDotD
  constructor
  · intro h; simp [h]
  · intro h; simp [h]

/-- **`fromlocal ∘ tolocal = id`** on data of the right length -/
theorem C19_fromlocal_tolocal (Nu Nv nt : Nat) (data : List K) (h : data.length = Nu * Nv * nt) :
    fromlocal Nu Nv nt (tolocal Nv nt data) = data := by
  have e : data = (List.range (Nu * Nv * nt)).map (fun p => data.getD p 0) := by
    rw [← h]
    exact (map_getD_range_id data (0 : K)).symm
  conv_rhs => rw [e]
  rw [range_mul_map, range_mul_flatMap]
  unfold fromlocal tolocal reshape3
  rfl

/-- **`tolocal ∘ fromlocal = id`** -/
theorem C19_tolocal_fromlocal (Nu Nv nt : Nat) (L : Nat → Nat → Nat → K) (k i j : Nat)
    (hk : k < nt) (hi : i < Nv) (hj : j < Nu) :
    tolocal Nv nt (fromlocal Nu Nv nt L) k i j = L k i j := by
  rw [tolocal_eq, flatSlot]
  exact getD_eq_of_getElem?_eq_some
    (getElem?_flatMap_flatMap_map_range Nu Nv nt (fun j i k => L k i j) j i k hj hi hk) 0

/-- **orientation of `tolocal()`**: on the elemental data of a bilinear form, `tolocal()[k][i][j]`
    is the kernel of (trial function `j`, test function `i`) on cell `k`, the entry that assembly
    scatters to row `vdofs[i][k]` (test), column `udofs[j][k]` (trial); `Nu ≠ Nv` allowed -/
theorem C19_tolocal_orientation (Nu Nv nt nq : Nat) (f : Sample K → Sample K → Sample K → K)
    (ub vb : BasisData K) (w : Nat → Nat → Sample K) (dx : Nat → Nat → K)
    (udofs vdofs : Nat → Nat → Nat) (k i j : Nat) (hk : k < nt) (hi : i < Nv) (hj : j < Nu) :
    let T := bilinearTriplets Nu Nv nt nq f ub vb w dx udofs vdofs
    tolocal Nv nt (T.map (fun t => t.2.2)) k i j = kernelBil nq f ub vb w dx j i k
    ∧ T[flatSlot Nv nt i j k]?
        = some (vdofs i k, udofs j k, tolocal Nv nt (T.map (fun t => t.2.2)) k i j) := by
  intro T
  have h := C01.C01_rows_test_cols_trial Nu Nv nt nq f ub vb w dx udofs vdofs j i k hj hi hk
  have h1 : tolocal Nv nt (T.map (fun t => t.2.2)) k i j = kernelBil nq f ub vb w dx j i k := by
    rw [tolocal_eq]
    exact getD_eq_of_getElem?_eq_some (by rw [List.getElem?_map, h]; rfl) 0
  exact ⟨h1, by rw [h1]; exact h⟩

/-- linear forms (`local_shape = (Nv,)`): `tolocal()[k][i]` is the entry scattered to `vdofs[i][k]`,
    and the round trip is the identity -/
theorem C19_tolocal_linear (Nv nt nq : Nat) (f : Sample K → Sample K → K)
    (vb : BasisData K) (w : Nat → Nat → Sample K) (dx : Nat → Nat → K)
    (vdofs : Nat → Nat → Nat) (k i : Nat) (hk : k < nt) (hi : i < Nv) :
    let T := linearPairs Nv nt nq f vb w dx vdofs
    T[i * nt + k]? = some (vdofs i k, tolocalLin nt (T.map (·.2)) k i)
    ∧ tolocalLin nt (T.map (·.2)) k i = kernelLin nq f vb w dx i k
    ∧ (∀ L : Nat → Nat → K, tolocalLin nt (fromlocalLin Nv nt L) k i = L k i) := by
  intro T
  have h : T[i * nt + k]? = some (vdofs i k, kernelLin nq f vb w dx i k) := by
    rw [Nat.mul_comm]
    exact getElem?_flatMap_map_range Nv nt _ i k hi hk
  have h1 : tolocalLin nt (T.map (·.2)) k i = kernelLin nq f vb w dx i k :=
    getD_eq_of_getElem?_eq_some (by rw [List.getElem?_map, h]; rfl) 0
  refine ⟨by rw [h1]; exact h, h1, ?_⟩
  intro L
  exact getD_eq_of_getElem?_eq_some
    (Nat.mul_comm .. ▸ getElem?_flatMap_map_range Nv nt (fun i k => L k i) i k hi hk) 0

/-- the published `tolocal()` reshaped with `local_shape = (Nv, Nu)` although the data are laid out
    `(Nu, Nv, nt)`: for square forms it returns the transposed local matrices … -/
theorem C19_tolocal_old_transposed (N nt : Nat) (data : List K) (k a b : Nat) :
    tolocalOld N nt data k a b = tolocal N nt data k b a := rfl

/-- … which differ for a non-symmetric form (2 × 2, one cell; the data are the slot numbers);
    for a rectangular form (`Nu = 3`, `Nv = 2`) it is neither the local matrix nor its transpose
    but the transpose's entries in C order cut into rows of length `Nu` -/
theorem C19_tolocal_old_counterexample :
    tolocalOld 2 1 [0, 1, 2, 3] 0 0 1 ≠ tolocal 2 1 ([0, 1, 2, 3] : List Int) 0 0 1
    ∧ tolocalArray 3 2 1 ([0, 1, 2, 3, 4, 5] : List Int) = [[[0, 2, 4], [1, 3, 5]]]
    ∧ tolocalOldArray 3 2 1 ([0, 1, 2, 3, 4, 5] : List Int) = [[[0, 1, 2], [3, 4, 5]]] := by
  decide

/-- the COO triplets whose data are the local matrices `L` written back by `fromlocal`:
    `L k i j` travels with row `vdofs i k`, column `udofs j k` -/
def scatterLocal (Nu Nv nt : Nat) (udofs vdofs : Nat → Nat → Nat) (L : Nat → Nat → Nat → K) :
    List (Nat × Nat × K) :=
  (List.range Nu).flatMap (fun j => (List.range Nv).flatMap (fun i => (List.range nt).map (fun k =>
    (vdofs i k, udofs j k, L k i j))))

/-- **`fromlocal` keeps the indices**: replacing the data of the elemental COO of a bilinear form
    by `fromlocal(L)` gives the triplets `(vdofs[i][k], udofs[j][k], L[k][i][j])`; `inverse()` does
    so with `L` = the inverted local matrices -/
theorem C19_fromlocal_scatter (Nu Nv nt nq : Nat) (f : Sample K → Sample K → Sample K → K)
    (ub vb : BasisData K) (w : Nat → Nat → Sample K) (dx : Nat → Nat → K)
    (udofs vdofs : Nat → Nat → Nat) (L : Nat → Nat → Nat → K) :
    let T := bilinearTriplets Nu Nv nt nq f ub vb w dx udofs vdofs
    (Coo.mk (T.map (·.1)) (T.map (·.2.1)) (fromlocal Nu Nv nt L) (0, 0)).triplets
      = scatterLocal Nu Nv nt udofs vdofs L := by
  intro T
  have hr : T.map (·.1) = (scatterLocal Nu Nv nt udofs vdofs L).map (·.1) := by
    simp only [T, bilinearTriplets, scatterLocal, List.map_flatMap, List.map_map]
    rfl
  have hc : T.map (·.2.1) = (scatterLocal Nu Nv nt udofs vdofs L).map (·.2.1) := by
    simp only [T, bilinearTriplets, scatterLocal, List.map_flatMap, List.map_map]
    rfl
  have hd : fromlocal Nu Nv nt L = (scatterLocal Nu Nv nt udofs vdofs L).map (·.2.2) := by
    simp only [fromlocal, scatterLocal, List.map_flatMap, List.map_map]
    rfl
  unfold Coo.triplets
  simp only
  rw [hr, hc, hd, List.zip_map', List.zip_map']
  exact List.map_id _

/-- product of a scattered block-diagonal matrix with a vector, for a cell-wise decoupled
    numbering (every DOF belongs to one cell: `dofs` injective in (local index, cell)) -/
theorem C19_scatter_dot (Nb nt : Nat) (dofs : Nat → Nat → Nat)
    (hinj : ∀ i < Nb, ∀ i' < Nb, ∀ k < nt, ∀ k' < nt, dofs i k = dofs i' k' → i = i' ∧ k = k')
    (L : Nat → Nat → Nat → K) (x : Nat → K) (i k : Nat) (hi : i < Nb) (hk : k < nt) :
    cooDot (scatterLocal Nb Nb nt dofs dofs L) x (dofs i k)
      = ∑ j ∈ Finset.range Nb, L k i j * x (dofs j k) := by
  rw [cooDot_eq_sum_ite]
  unfold scatterLocal
  rw [sum_map_flatMap_flatMap_map_range]
  refine Finset.sum_congr rfl (fun j _ => ?_)
  -- of the triplets of column `j` only the one of (local index `i`, cell `k`) sits in row `dofs i k`
  rw [Finset.sum_eq_single_of_mem i (Finset.mem_range.2 hi),
    Finset.sum_eq_single_of_mem k (Finset.mem_range.2 hk)]
  · simp
  · intro k' hk' hne
    exact if_neg fun he => hne (hinj i hi i hi k' (Finset.mem_range.1 hk') k hk he).2
  · intro i' hi' hne
    exact Finset.sum_eq_zero fun k' hk' => if_neg fun he =>
      hne (hinj i' (Finset.mem_range.1 hi') i hi k' (Finset.mem_range.1 hk') k hk he).1

/-- **`inverse()` of a cell-wise decoupled (discontinuous) matrix is the inverse matrix**:
    if `M k` is a left inverse of `L k` in every cell, the scattered `M` undoes the scattered `L` on
    every DOF -/
theorem C19_inverse_dg (Nb nt : Nat) (dofs : Nat → Nat → Nat)
    (hinj : ∀ i < Nb, ∀ i' < Nb, ∀ k < nt, ∀ k' < nt, dofs i k = dofs i' k' → i = i' ∧ k = k')
    (L M : Nat → Nat → Nat → K)
    (hinv : ∀ k < nt, ∀ i < Nb, ∀ j < Nb,
      ∑ m ∈ Finset.range Nb, M k i m * L k m j = if i = j then 1 else 0)
    (x : Nat → K) (i k : Nat) (hi : i < Nb) (hk : k < nt) :
    cooDot (scatterLocal Nb Nb nt dofs dofs M)
        (cooDot (scatterLocal Nb Nb nt dofs dofs L) x) (dofs i k) = x (dofs i k) := by
  rw [C19_scatter_dot Nb nt dofs hinj M _ i k hi hk]
  calc _ = ∑ m ∈ Finset.range Nb, ∑ j ∈ Finset.range Nb, M k i m * L k m j * x (dofs j k) :=
        Finset.sum_congr rfl fun m hm => by
          rw [C19_scatter_dot Nb nt dofs hinj L x m k (Finset.mem_range.1 hm) hk, Finset.mul_sum]
          exact Finset.sum_congr rfl fun j _ => (mul_assoc ..).symm
    _ = ∑ j ∈ Finset.range Nb, (if i = j then 1 else 0) * x (dofs j k) := by
        rw [Finset.sum_comm]
        exact Finset.sum_congr rfl fun j hj => by
          rw [← Finset.sum_mul, hinv k hk i hi j (Finset.mem_range.1 hj)]
    _ = x (dofs i k) := by simp [hi]

/-- **facet tensors summed to elemental tensors keep the global tensor**: any cell-wise
    weighting `G` (e.g. the indicator that local `(i, j)` of cell `k` is the global pair `(r, c)`)
    of the summed tensors equals the facet-wise weighting by the cell the facet is evaluated in -/
theorem C19_tolocal_facets (tind : List Nat) (nt : Nat) (ht : ∀ f < tind.length, tind.getD f 0 < nt)
    (L G : Nat → K) :
    ∑ k ∈ Finset.range nt, G k * sumToCells tind L k
      = ∑ f ∈ Finset.range tind.length, G (tind.getD f 0) * L f := by
  simp only [sumToCells_eq, Finset.mul_sum, mul_ite, mul_zero]
  rw [Finset.sum_comm]
  refine Finset.sum_congr rfl (fun f hf => ?_)
  rw [Finset.sum_ite_eq, if_pos (Finset.mem_range.2 (ht f (Finset.mem_range.1 hf)))]

end

/-- the published version adds the tensor of an interior facet to both neighbouring cells
    (two cells sharing facet 0, evaluated in cell 0; one local facet slot) -/
theorem C19_tolocal_facets_old_counterexample :
    sumToCellsOld [0] [[0, 0]] (fun _ => (1 : Int)) 1 = 1
    ∧ sumToCells [0] (fun _ => (1 : Int)) 1 = 0
    ∧ sumToCells [0] (fun _ => (1 : Int)) 0 = 1 := by
  decide

/-- **the block offsets `bmat(...).blocks`** are the cumulative widths of the block columns
    (what `np.split(x, K.blocks)` needs) -/
theorem C19_bmat_blocks (widths : List Nat) :
    bmatBlocks false widths
      = (List.range (widths.length - 1)).map (fun j => (widths.take (j + 1)).sum) := by
  unfold bmatBlocks
  rw [bmat_foldl]
  simp only [List.nil_append, Nat.zero_add, List.length_dropLast]
  apply List.map_congr_left
  intro j hj
  simp only [List.mem_range] at hj
  rw [List.dropLast_eq_take, List.take_take, Nat.min_eq_left (by omega)]

/-- the published loop accumulates `diff += sizes[-1]`: wrong from the fourth block column on -/
theorem C19_bmat_blocks_old_counterexample :
    bmatBlocks true [2, 3, 4, 5] = [2, 5, 11] ∧ bmatBlocks false [2, 3, 4, 5] = [2, 5, 9] := by
  decide

/-- P2 × P1 on two triangles sharing an edge -/
def twoTris : Topo :=
  { dim := 2, nverts := 4, nedges := 0, nfacets := 5, nt := 2,
    t := [[0, 1], [1, 2], [2, 3]], t2e := [], t2f := [[0, 2], [2, 4], [1, 3]] }

example : WellFormed (sumCounts [⟨1, 0, 1, 0⟩, ⟨1, 0, 0, 0⟩]) twoTris :=
  ⟨by decide, by decide⟩

example : Compatible twoTris ⟨3, 0, 3⟩ := ⟨rfl, rfl, rfl⟩

example : ∀ t < 4, ∀ row ∈ connOf twoTris t, ∀ e ∈ row, e < nentOf twoTris t := by decide

example : (List.range 9).map (deduceBfun [⟨1, 0, 1, 0⟩, ⟨1, 0, 0, 0⟩] ⟨3, 0, 3⟩)
    = [(0, 0), (1, 0), (0, 1), (1, 1), (0, 2), (1, 2), (0, 3), (0, 4), (0, 5)] := by decide

example : splitIndicesComposite [⟨1, 0, 1, 0⟩, ⟨1, 0, 0, 0⟩] twoTris 0 = [0, 2, 4, 6, 8, 9, 10, 11, 12]
    ∧ splitIndicesComposite [⟨1, 0, 1, 0⟩, ⟨1, 0, 0, 0⟩] twoTris 1 = [1, 3, 5, 7] := by decide

example : splitIndicesVector 2 ⟨1, 0, 1, 0⟩ twoTris 1 = [1, 3, 5, 7, 9, 11, 13, 15, 17] := by decide

example (Nb : Nat) (dofs : Nat → Nat → Nat) (b : BasisData Int) :
    Wraps Int Nb 1 (fun _ => Nb) (fun j => (0, j)) (fun _ d => d) (fun _ => dofs) (fun _ => b) dofs b :=
  ⟨fun G => by simp, fun _ _ _ => rfl, fun _ _ _ _ => rfl⟩

example : [[0, 1], [2, 3]].flatten.Perm (List.range 4) := by decide

/-- `hinj`, `hinv` of `C19_inverse_dg` for P0 on two cells with local matrices `2`, `1/2` -/
example : (∀ i < 1, ∀ i' < 1, ∀ k < 2, ∀ k' < 2, (fun _ k => k) i k = (fun _ k => k) i' k' → i = i' ∧ k = k')
    ∧ (∀ k < 2, ∀ i < 1, ∀ j < 1, ∑ m ∈ Finset.range 1,
        (fun _ _ _ => (1 / 2 : Rat)) k i m * (fun _ _ _ => (2 : Rat)) k m j = if i = j then 1 else 0) := by
  constructor
  · intro i hi i' hi' k _ k' _ h
    exact ⟨by omega, h⟩
  · intro k _ i hi j hj
    have : i = j := by omega
    simp [this]

end Skv.C19
