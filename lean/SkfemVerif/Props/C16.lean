import SkfemVerif.Model.Assembly
import SkfemVerif.Lemmas.List
import SkfemVerif.Lemmas.Threads
import Mathlib.Data.List.Nodup
/-
C16  Threaded assembly equals serial assembly under every schedule.

Model: `pairList`, `threadChunks` (= `np.array_split(indices, nthreads)`), `Interleaving`
(every interleaving of the workers' kernel invocations), `runSchedule` (Model/Assembly.lean).
Tie: correspondence op `threads.chunks` (exact) and observation of the (owner thread, order) of
kernel invocations from inside the integrand.
-/
namespace Skv.C16

/-- `np.array_split` returns exactly `n` chunks (also when `n` exceeds the number of items) -/
theorem C16_split_length {β : Type} (l : List β) (n : Nat) : (arraySplit l n).length = n := by
  rw [arraySplit, length_splitBySizes, length_arraySplitSizes]

/-- the chunks, concatenated, are the original list -/
theorem C16_split_join {β : Type} (l : List β) (n : Nat) (hn : 0 < n) :
    (arraySplit l n).flatten = l := by
  rw [arraySplit, flatten_splitBySizes, sum_arraySplitSizes _ _ hn, List.take_length]

/-- `np.array_split` sizes differ by at most one (`len / n` or `len / n + 1`) -/
theorem C16_sizes_balanced (len n : Nat) :
    ∀ s ∈ arraySplitSizes len n, s = len / n ∨ s = len / n + 1 := by
  intro s hs
  simp only [arraySplitSizes, List.mem_map, List.mem_range] at hs
  obtain ⟨i, _, rfl⟩ := hs
  split <;> simp

/-- the chunks have exactly the `np.array_split` sizes -/
theorem C16_chunk_lengths {β : Type} (l : List β) (n : Nat) (hn : 0 < n) :
    (arraySplit l n).map List.length = arraySplitSizes l.length n := by
  unfold arraySplit
  exact map_length_splitBySizes _ _ (by rw [sum_arraySplitSizes _ _ hn]; exact Nat.le_refl _)

theorem C16_mem_pairList (Nu Nv i j : Nat) : (i, j) ∈ pairList Nu Nv ↔ i < Nv ∧ j < Nu := by
  unfold pairList
  simp only [List.mem_flatMap, List.mem_range, List.mem_map, Prod.mk.injEq]
  constructor
  · rintro ⟨a, ha, b, hb, rfl, rfl⟩
    exact ⟨hb, ha⟩
  · rintro ⟨hi, hj⟩
    exact ⟨j, hj, i, hi, rfl, rfl⟩

/-- no local index pair is repeated in the work list -/
theorem C16_pairList_nodup (Nu Nv : Nat) : (pairList Nu Nv).Nodup :=
  nodup_flatMap_map List.nodup_range (fun _ _ => List.nodup_range)
    fun _ _ _ _ e => ⟨(Prod.mk.inj e).2, (Prod.mk.inj e).1⟩

theorem C16_length_pairList (Nu Nv : Nat) : (pairList Nu Nv).length = Nu * Nv := by
  rw [pairList, length_flatMap_map, List.length_range, List.length_range]

/-- **workers write disjoint parts**: the chunks handed to the workers are pairwise disjoint and
    each is free of repetitions -/
theorem C16_chunks_disjoint (Nu Nv n : Nat) (hn : 0 < n) :
    (threadChunks Nu Nv n).Pairwise List.Disjoint ∧ ∀ c ∈ threadChunks Nu Nv n, c.Nodup := by
  have h : (threadChunks Nu Nv n).flatten.Nodup :=
    (C16_split_join (pairList Nu Nv) n hn).symm ▸ C16_pairList_nodup Nu Nv
  rw [List.nodup_flatten] at h
  exact ⟨h.2, h.1⟩

/-- **more threads than local index pairs**: every worker gets at most one pair (the surplus
    workers get none) -/
theorem C16_more_threads_than_pairs (Nu Nv n : Nat) (hn : Nu * Nv < n) :
    ∀ c ∈ threadChunks Nu Nv n, c.length ≤ 1 := by
  intro c hc
  have hn0 : 0 < n := by omega
  have hl := C16_chunk_lengths (pairList Nu Nv) n hn0
  have : c.length ∈ (threadChunks Nu Nv n).map List.length := List.mem_map_of_mem hc
  rw [threadChunks, hl, C16_length_pairList] at this
  rcases C16_sizes_balanced _ _ _ this with h | h <;> rw [h, Nat.div_eq_of_lt hn] <;> omega

/-- the workers together perform exactly `Nu * Nv` kernel invocations -/
theorem C16_total_work (Nu Nv n : Nat) (hn : 0 < n) :
    ((threadChunks Nu Nv n).map List.length).sum = Nu * Nv := by
  rw [threadChunks, C16_chunk_lengths _ _ hn, sum_arraySplitSizes _ _ hn, C16_length_pairList]

/-- the flat slot map `(i, j, k) ↦ nt * (Nv * j + i) + k` is injective on the index box: distinct
    invocations write disjoint memory -/
theorem C16_flatSlot_injective (Nv nt i j k i' j' k' : Nat)
    (hi : i < Nv) (hi' : i' < Nv) (hk : k < nt) (hk' : k' < nt)
    (h : flatSlot Nv nt i j k = flatSlot Nv nt i' j' k') : i = i' ∧ j = j' ∧ k = k' := by
  simp only [flatSlot, Nat.mul_comm nt, Nat.mul_comm Nv] at h
  obtain ⟨h1, h2⟩ := mul_add_inj hk' hk h
  obtain ⟨h3, h4⟩ := mul_add_inj hi' hi h1
  exact ⟨h4, h3, h2⟩

/-- every write lands inside the flattened output block of `Nu * Nv * nt` entries -/
theorem C16_flatSlot_bound (Nu Nv nt i j k : Nat) (hi : i < Nv) (hj : j < Nu) (hk : k < nt) :
    flatSlot Nv nt i j k < Nu * Nv * nt := by
  rw [flatSlot, Nat.mul_comm nt, Nat.mul_comm Nv]
  exact mul_add_lt_mul hk (mul_add_lt_mul hi hj)

/-- an interleaving executes exactly the items of the worker sequences (as a permutation) -/
theorem C16_interleaving_perm {α : Type} (ws : List (List α)) (s : List α)
    (h : Interleaving ws s) : s.Perm ws.flatten := by
  induction h with
  | done ws hws => rw [List.flatten_eq_nil_iff.mpr hws]
  | step pre post x rest s _ ih =>
    rw [List.flatten_append, List.flatten_cons] at ih ⊢
    rw [List.cons_append]
    exact (List.Perm.cons x ih).trans List.perm_middle.symm

/-- the serial loop is one particular schedule -/
theorem C16_serial_is_schedule (Nu Nv : Nat) :
    Interleaving [pairList Nu Nv] (pairList Nu Nv) := by
  induction pairList Nu Nv with
  | nil => exact Interleaving.done [[]] (by simp)
  | cons x xs ih => exact Interleaving.step [] [] x xs xs ih

/-- **each pair computed exactly once** under every schedule -/
theorem C16_each_pair_once (Nu Nv n : Nat) (hn : 0 < n) (s : List (Nat × Nat))
    (h : Interleaving (threadChunks Nu Nv n) s) :
    s.Nodup ∧ ∀ p, p ∈ s ↔ p ∈ pairList Nu Nv := by
  have hp : s.Perm (pairList Nu Nv) :=
    C16_split_join (pairList Nu Nv) n hn ▸ C16_interleaving_perm _ s h
  exact ⟨hp.nodup_iff.mpr (C16_pairList_nodup Nu Nv), fun p => hp.mem_iff⟩

/-- the final array holds `kernel (i, j)` in every slot of the local matrix and is untouched
    elsewhere -/
theorem C16_final_value {V : Type} (Nu Nv : Nat) (kernel : Nat × Nat → V) (init : Nat × Nat → V)
    (p : Nat × Nat) :
    runSchedule kernel (pairList Nu Nv) init p = if p ∈ pairList Nu Nv then kernel p else init p :=
  runSchedule_apply kernel _ init p

/-- for any way of dealing the pairs to the workers (contiguous chunks, round-robin, …): if the
    workers' lists together are a rearrangement of the pair list, every interleaving reproduces
    the serial result.  The array after a schedule depends only on the set of slots visited
    (`runSchedule_congr`: `writeSlot` stores `kernel p` whatever the state), so only `.mem_iff` of
    the rearrangement is used: a pair visited twice does no harm; a pair not visited does,
    `C16_lost_pair_not_computed`. -/
theorem C16_any_partition_eq_serial {V : Type} (Nu Nv : Nat) (ws : List (List (Nat × Nat)))
    (hws : ws.flatten.Perm (pairList Nu Nv)) (kernel : Nat × Nat → V)
    (init : Nat × Nat → V) (s : List (Nat × Nat)) (h : Interleaving ws s) :
    runSchedule kernel s init = runSchedule kernel (pairList Nu Nv) init :=
  runSchedule_congr kernel (fun _ => ((C16_interleaving_perm ws s h).trans hws).mem_iff) init

/-- **threaded = serial**: for every number of workers `n > 0` (also `n > Nu * Nv`), every
    interleaving `s` of the workers and every kernel (a function of the slot only: purity of the
    integrand is built in), the final output array equals the serial one -/
theorem C16_threaded_eq_serial {V : Type} (Nu Nv n : Nat) (hn : 0 < n) (kernel : Nat × Nat → V)
    (init : Nat × Nat → V) (s : List (Nat × Nat))
    (h : Interleaving (threadChunks Nu Nv n) s) :
    runSchedule kernel s init = runSchedule kernel (pairList Nu Nv) init :=
  C16_any_partition_eq_serial Nu Nv _ (C16_split_join (pairList Nu Nv) n hn ▸ .refl _) kernel init s h

/-- conversely a split that loses a pair (as a worker cap computed from the wrong size does) leaves
    that slot at its initial value under every schedule -/
theorem C16_lost_pair_not_computed {V : Type} (ws : List (List (Nat × Nat))) (kernel : Nat × Nat → V)
    (init : Nat × Nat → V) (s : List (Nat × Nat)) (h : Interleaving ws s) (p : Nat × Nat)
    (hp : p ∉ ws.flatten) : runSchedule kernel s init p = init p := by
  rw [runSchedule_apply]
  have : p ∉ s := fun hm => hp ((C16_interleaving_perm ws s h).mem_iff.mp hm)
  rw [if_neg this]

example : threadChunks 2 3 4 = [[(0,0),(1,0)], [(2,0),(0,1)], [(1,1)], [(2,1)]] := by decide
example : threadChunks 1 1 3 = [[(0,0)], [], []] := by decide

end Skv.C16
