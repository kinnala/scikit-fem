import SkfemVerif.Lemmas.Surgery
import Mathlib.Tactic.Ring
/-
C18  Mesh surgery keeps geometry valid and carries tags to the same entities.

Model: Model/Surgery.lean, tied to skfem/mesh/*.py by the correspondence ops `surgery.*` (exact
integer arrays on every run).  DESIGN.md §C18 refers to the sections by their letters A–H.
-/
set_option linter.unusedSectionVars false

namespace Skv.C18


/-! ## A. `_reix`: renumbering the used vertices by rank -/

theorem mem_used {cells : List (List Nat)} {v : Nat} : v ∈ reixUsed cells ↔ v ∈ cells.flatten :=
  mem_unique

/-- **order preserving**: on the used vertices the new numbering preserves and reflects `<` -/
theorem C18_reix_monotone (cells : List (List Nat)) (a b : Nat)
    (ha : a ∈ cells.flatten) (hb : b ∈ cells.flatten) :
    reixMap cells a < reixMap cells b ↔ a < b :=
  idxOf_lt_iff (pairwise_unique _) (mem_used.mpr ha) (mem_used.mpr hb)

/-- **injective** on the used vertices: no two vertices are merged.  `hb` is not needed. -/
theorem C18_reix_injective (cells : List (List Nat)) (a b : Nat)
    (ha : a ∈ cells.flatten) (hb : b ∈ cells.flatten)
    (h : reixMap cells a = reixMap cells b) : a = b :=
  (idxOf_inj (mem_used.mpr ha)).mp h

/-- **image = 0..n-1**: every new number is below the number of used vertices and every number
    below it is taken (no unused vertex in the result) -/
theorem C18_reix_range (cells : List (List Nat)) :
    (∀ v ∈ cells.flatten, reixMap cells v < (reixUsed cells).length) ∧
    (∀ j, j < (reixUsed cells).length → ∃ v ∈ cells.flatten, reixMap cells v = j) :=
  ⟨fun _ hv => List.idxOf_lt_length_of_mem (mem_used.mpr hv),
   fun j hj => ⟨_, mem_used.mp (List.getElem_mem hj), (nodup_unique _).idxOf_getElem j hj⟩⟩

/-- **returned index map** (`return_mapping=True`, `ixuniq`): new vertex `reixMap v` is old
    vertex `v`, and the old vertex `ixuniq[j]` gets the new number `j` -/
theorem C18_reix_vertex_map (cells : List (List Nat)) :
    (∀ v, ∀ hv : v ∈ cells.flatten,
      (reixUsed cells)[reixMap cells v]'(List.idxOf_lt_length_of_mem (mem_used.mpr hv)) = v) ∧
    (∀ j, ∀ hj : j < (reixUsed cells).length, reixMap cells ((reixUsed cells)[j]) = j) :=
  ⟨fun _ hv => List.getElem_idxOf (List.idxOf_lt_length_of_mem (mem_used.mpr hv)),
   fun j hj => (nodup_unique _).idxOf_getElem j hj⟩

/-- the point stored for the new number of `v` is the old point of `v`
    (`p_new[:, t_new] == p_old[:, t_old]`) -/
theorem reixPoints_getD {α : Type} [Inhabited α] (pts : List α) (cells : List (List Nat)) (v : Nat)
    (hv : v ∈ cells.flatten) :
    (reixPoints pts cells).getD (reixMap cells v) default = pts.getD v default := by
  have hm := mem_used.mpr hv
  rw [reixPoints, reixMap, getD_map_of_lt _ _ _ default 0 (List.idxOf_lt_length_of_mem hm),
    getD_idxOf hm]

/-- **cells occupy the same point sets**: every cell of the renumbered mesh has, vertex by
    vertex in local order, the coordinates it had before -/
theorem C18_reix_cells_geometric {α : Type} [Inhabited α] (pts : List α) (cells : List (List Nat))
    (k : Nat) (hk : k < cells.length) :
    cellCoords (reixPoints pts cells) ((reixCells cells).getD k []) = cellCoords pts cells[k] := by
  rw [getD_eq_getElem _ _ (by simpa [reixCells] using hk)]
  simp only [reixCells, List.getElem_map, cellCoords, List.map_map]
  exact List.map_congr_left fun v hv =>
    reixPoints_getD pts cells v (List.mem_flatten_of_mem (List.getElem_mem hk) hv)

/-- **restrict / return_mapping**: cell `j` of the restricted mesh is cell `elements[j]` of the
    old mesh, with the same coordinates in the same local order -/
theorem C18_restrict_cells_geometric {α : Type} [Inhabited α] (pts : List α)
    (cells : List (List Nat)) (elements : List Nat) (j : Nat) (hj : j < elements.length) :
    cellCoords (reixPoints pts (selectCells cells elements))
        ((restrictCells cells elements).getD j [])
      = cellCoords pts (cells.getD elements[j] []) := by
  have hj' : j < (selectCells cells elements).length := (List.length_map _).symm ▸ hj
  exact (C18_reix_cells_geometric pts _ j hj').trans (congrArg _ (List.getElem_map _))

/-- **validity is preserved**: if the old points of the used vertices are pairwise distinct, the
    new point array has no duplicate, every new vertex is used and every index is in range -/
theorem C18_reix_valid {α : Type} [Inhabited α] (pts : List α) (cells : List (List Nat))
    (hinj : ∀ a ∈ cells.flatten, ∀ b ∈ cells.flatten,
      pts.getD a default = pts.getD b default → a = b) :
    (reixPoints pts cells).Nodup ∧
    (∀ c ∈ reixCells cells, ∀ w ∈ c, w < (reixPoints pts cells).length) ∧
    (∀ j, j < (reixPoints pts cells).length → ∃ c ∈ reixCells cells, j ∈ c) := by
  have hlen : (reixPoints pts cells).length = (reixUsed cells).length := by simp [reixPoints]
  refine ⟨?_, ?_, ?_⟩
  · exact List.pairwise_map.mpr ((nodup_unique _).imp_of_mem fun ha hb hne hab =>
      hne (hinj _ (mem_used.mp ha) _ (mem_used.mp hb) hab))
  · intro c hc w hw
    obtain ⟨c0, hc0, rfl⟩ := List.mem_map.mp hc
    obtain ⟨v, hv, rfl⟩ := List.mem_map.mp hw
    exact hlen ▸ (C18_reix_range cells).1 v (List.mem_flatten_of_mem hc0 hv)
  · intro j hj
    rw [hlen] at hj
    obtain ⟨v, hv, e⟩ := (C18_reix_range cells).2 j hj
    obtain ⟨c0, hc0, hvc⟩ := List.mem_flatten.mp hv
    exact ⟨c0.map (reixMap cells), List.mem_map.mpr ⟨c0, hc0, rfl⟩,
      List.mem_map.mpr ⟨v, hvc, e⟩⟩

/-- **shared-vertex structure**: two cells share a vertex after the renumbering iff they did -/
theorem C18_reix_shared_vertices (cells : List (List Nat)) (c d : List Nat)
    (hc : c ∈ cells) (hd : d ∈ cells) :
    (∃ w, w ∈ c.map (reixMap cells) ∧ w ∈ d.map (reixMap cells)) ↔ (∃ v, v ∈ c ∧ v ∈ d) := by
  constructor
  · rintro ⟨w, h1, h2⟩
    obtain ⟨a, ha, rfl⟩ := List.mem_map.mp h1
    obtain ⟨b, hb, hab⟩ := List.mem_map.mp h2
    have : b = a := C18_reix_injective cells b a
      (List.mem_flatten_of_mem hd hb) (List.mem_flatten_of_mem hc ha) hab
    subst this
    exact ⟨b, ha, hb⟩
  · rintro ⟨v, h1, h2⟩
    exact ⟨_, List.mem_map_of_mem h1, List.mem_map_of_mem h2⟩

example : reixCells [[5, 2, 9], [9, 2, 7]] = [[1, 0, 3], [3, 0, 2]] := by decide
example : reixUsed [[5, 2, 9], [9, 2, 7]] = [2, 5, 7, 9] := by decide

/-! ## B. `restrict`: the facet renumbering shortcut agrees with rebuilding the facets -/

theorem reixMap_monoOn (cells : List (List Nat)) : MonoOn (reixMap cells) (· ∈ cells.flatten) :=
  fun a b ha hb hab => (C18_reix_monotone cells a b ha hb).mpr hab

/-- the old numbers of the facets of the kept cells are the positions (in the old facet table)
    of the facets of the sub-mesh, in the order of the sub-mesh's own facet table:
    `np.unique(t2f[:, elements]) = [F.idxOf e | e ∈ F']` -/
theorem usedFacets_eq (cells ref : List (List Nat)) (elements : List Nat)
    (hel : ∀ k ∈ elements, k < cells.length) :
    usedFacets (entityMapping cells ref) elements
      = (entitiesSorted (selectCells cells elements) ref).map (entitiesSorted cells ref).idxOf := by
  have step1 : (entityMapping cells ref).flatMap (fun row => elements.map (fun k => row.getD k 0))
      = (sortedIndexing (selectCells cells elements) ref).map (entitiesSorted cells ref).idxOf := by
    simp only [entityMapping_eq, sortedIndexing_eq, selectCells, List.flatMap_def,
      List.map_flatten, List.map_map, Function.comp_def]
    congr 1
    refine List.map_congr_left fun slot _ => List.map_congr_left fun k hk => ?_
    exact getD_map_of_lt _ cells k 0 [] (hel k hk)
  rw [usedFacets, step1]
  exact unique_map _ _ fun a ha b hb hab => idxOf_lt_of_lt (pairwise_unique _)
    (mem_entitiesSorted_of_select hel (mem_unique.mpr ha))
    (mem_entitiesSorted_of_select hel (mem_unique.mpr hb)) hab

/-- `newf` at the old number of `e` is the position of `e` in the sub-mesh's own facet table, if it has one -/
theorem newFacet_idxOf (cells ref : List (List Nat)) (elements : List Nat)
    (hel : ∀ k ∈ elements, k < cells.length) (e : List Nat) :
    newFacet (entityMapping cells ref) elements ((entitiesSorted cells ref).idxOf e)
      = if e ∈ entitiesSorted (selectCells cells elements) ref
        then some ((entitiesSorted (selectCells cells elements) ref).idxOf e) else none := by
  have hinj : ∀ x ∈ entitiesSorted (selectCells cells elements) ref,
      (entitiesSorted cells ref).idxOf x = (entitiesSorted cells ref).idxOf e → x = e :=
    fun x hx => (idxOf_inj (mem_entitiesSorted_of_select hel hx)).mp
  simp only [newFacet, usedFacets_eq cells ref elements hel, List.contains_iff_mem]
  split
  · rename_i hm
    obtain ⟨x, hx, h⟩ := List.mem_map.mp hm
    have he := hinj x hx h ▸ hx
    rw [if_pos he, idxOf_map_of_injOn _ _ e he hinj]
  · rename_i hm
    rw [if_neg fun h => hm (List.mem_map_of_mem h)]

/-- **the `newf` shortcut of `Mesh.restrict` is correct**: for a facet `e` of a kept cell (sorted
    tuple of old vertex numbers) with old number `f`, `newf[f] = g ≥ 0`, and entry `g` of the facet
    table rebuilt from the cells of the restricted mesh (`entitiesSorted`: what `out.facets` is for
    the classes that store sorted facets) is `e` with its vertices renumbered -/
theorem C18_restrict_facets (cells ref : List (List Nat)) (elements : List Nat)
    (hwf : WellFormed cells ref) (hel : ∀ k ∈ elements, k < cells.length)
    (e : List Nat) (he : e ∈ entitiesSorted (selectCells cells elements) ref) :
    ∃ g, newFacet (entityMapping cells ref) elements ((entitiesSorted cells ref).idxOf e) = some g ∧
      (entitiesSorted (restrictCells cells elements) ref)[g]?
        = some (e.map (reixMap (selectCells cells elements))) := by
  let S := selectCells cells elements
  refine ⟨_, (newFacet_idxOf cells ref elements hel e).trans (if_pos he), ?_⟩
  have hlt := List.idxOf_lt_length_of_mem he
  rw [restrictCells, reixCells, entitiesSorted_map (reixMap S) S ref
    (fun c hc => hwf c (mem_selectCells hel hc)) (reixMap_monoOn S), List.getElem?_map,
    List.getElem?_eq_getElem hlt, List.getElem_idxOf hlt]
  rfl

/-- **tags of removed facets disappear**: an old facet gets a new number iff it is a facet of
    some kept cell; otherwise `newf = -1` and `restrict` filters it out -/
theorem C18_restrict_facets_removed (cells ref : List (List Nat)) (elements : List Nat)
    (hel : ∀ k ∈ elements, k < cells.length) (f : Nat) (hf : f < (entitiesSorted cells ref).length) :
    newFacet (entityMapping cells ref) elements f = none ↔
      (entitiesSorted cells ref)[f] ∉ entitiesSorted (selectCells cells elements) ref := by
  have hf' : (entitiesSorted cells ref).idxOf (entitiesSorted cells ref)[f] = f :=
    (nodup_unique _).idxOf_getElem f hf
  have := newFacet_idxOf cells ref elements hel (entitiesSorted cells ref)[f]
  rw [hf'] at this
  rw [this]
  split <;> simp [*]

/-- a named boundary keeps exactly the new numbers of its listed facets that survive -/
theorem C18_restrict_boundary_mem (t2f : List (List Nat)) (elements bnd : List Nat) (g : Nat) :
    g ∈ restrictBoundary t2f elements bnd ↔ ∃ f ∈ bnd, newFacet t2f elements f = some g := by
  simp [restrictBoundary, List.mem_filterMap]

-- two triangles sharing an edge, keep the second: old facets [[0,1],[0,2],[1,2],[1,3],[2,3]]
example : usedFacets (entityMapping [[0, 1, 2], [1, 2, 3]] [[0, 1], [1, 2], [0, 2]]) [1] = [2, 3, 4] := by
  decide
example : entitiesSorted (restrictCells [[0, 1, 2], [1, 2, 3]] [1]) [[0, 1], [1, 2], [0, 2]]
    = [[0, 1], [0, 2], [1, 2]] := by decide
example : restrictBoundary (entityMapping [[0, 1, 2], [1, 2, 3]] [[0, 1], [1, 2], [0, 2]]) [1] [0, 2, 4]
    = [0, 2] := by decide

/-! ## C. subdomain maps of `restrict` / `remove_elements` -/

/-- **subdomains of `restrict`**: for a selection without repetitions, new cell `j` (old cell
    `elements[j]`: `C18_restrict_cells_geometric`) is in the carried subdomain iff old cell
    `elements[j]` was in it — for any order of `elements` and any order / repetitions inside the
    tag -/
theorem C18_restrict_subdomains (elements sub : List Nat) (hnd : elements.Nodup)
    (j : Nat) (hj : j < elements.length) :
    j ∈ restrictSub elements sub ↔ elements[j] ∈ sub := by
  simp only [restrictSub, List.mem_map, List.mem_filter, mem_unique, List.contains_iff_mem]
  constructor
  · rintro ⟨k, ⟨hk, _⟩, rfl⟩
    rwa [List.getElem_idxOf]
  · exact fun h => ⟨elements[j], ⟨h, List.getElem_mem hj⟩, hnd.idxOf_getElem j hj⟩

/-- every carried index is a cell of the new mesh -/
theorem C18_restrict_subdomains_range (elements sub : List Nat) (j : Nat)
    (h : j ∈ restrictSub elements sub) : j < elements.length := by
  simp only [restrictSub, List.mem_map, List.mem_filter, List.contains_iff_mem] at h
  obtain ⟨k, ⟨_, hke⟩, rfl⟩ := h
  exact List.idxOf_lt_length_of_mem hke

/-- `remove_elements` keeps exactly the cells that are not listed, each once, in ascending order
    (so it is `restrict` to a valid selection) -/
theorem C18_remove_complement (nt : Nat) (D : List Nat) :
    (∀ k, k ∈ removeKeep nt D ↔ k < nt ∧ k ∉ D) ∧ (removeKeep nt D).Nodup ∧
    (removeKeep nt D).Pairwise (· < ·) :=
  ⟨fun _ => mem_complementRange, nodup_complementRange nt D, pairwise_complementRange nt D⟩

/-- `remove_elements`, subdomains: new cell `j` is in the carried tag iff its old cell was, and
    its old cell is never one of the removed ones -/
theorem C18_remove_subdomains (nt : Nat) (D sub : List Nat) (j : Nat)
    (hj : j < (removeKeep nt D).length) :
    (j ∈ restrictSub (removeKeep nt D) sub ↔ (removeKeep nt D)[j] ∈ sub) ∧
    (removeKeep nt D)[j] ∉ D ∧ (removeKeep nt D)[j] < nt := by
  obtain ⟨hmem, hnd, _⟩ := C18_remove_complement nt D
  have := (hmem _).mp (List.getElem_mem hj)
  exact ⟨C18_restrict_subdomains _ sub hnd j hj, this.2, this.1⟩

example : restrictSub [5, 2, 7] [7, 3, 5] = [0, 2] := by decide
example : removeKeep 6 [4, 1] = [0, 2, 3, 5] := by decide

/-! ## D. duplicate vertices: `_remove_duplicate_nodes`, `+`, `@` -/

section Dedup
variable {α : Type} [LT α] [DecidableLT α] [DecidableEq α] [Inhabited α] [StrictTotal α]

/-- **two old vertices are merged iff their coordinates are equal** -/
theorem C18_dedup_merge_iff (pts : List α) (v w : Nat) (hv : v < pts.length) (hw : w < pts.length) :
    dedupMap pts v = dedupMap pts w ↔ pts[v] = pts[w] := by
  rw [dedupMap, dedupMap, getD_eq_getElem _ _ hv, getD_eq_getElem _ _ hw]
  exact idxOf_inj (mem_unique.mpr (List.getElem_mem hv))

/-- **coordinates are kept**: the point stored under the new number of `v` is the point of `v` -/
theorem C18_dedup_coords (pts : List α) (v : Nat) (hv : v < pts.length) :
    (dedupPoints pts).getD (dedupMap pts v) default = pts[v] := by
  rw [dedupMap, getD_eq_getElem _ _ hv]
  exact getD_idxOf (mem_unique.mpr (List.getElem_mem hv)) default

/-- connectivity remapped through the inverse: every cell keeps its coordinates, vertex by vertex -/
theorem C18_dedup_cells_geometric (pts : List α) (c : List Nat) (hc : ∀ v ∈ c, v < pts.length) :
    cellCoords (dedupPoints pts) (c.map (dedupMap pts)) = cellCoords pts c := by
  simp only [cellCoords, List.map_map]
  refine List.map_congr_left fun v hv => ?_
  rw [Function.comp, C18_dedup_coords pts v (hc v hv), getD_eq_getElem]

/-- **validity**: the result has no duplicate vertex, every new index is in range and every new
    vertex is the image of an old one (so it is used if every old vertex was) -/
theorem C18_dedup_valid (pts : List α) :
    (dedupPoints pts).Nodup ∧
    (∀ v, v < pts.length → dedupMap pts v < (dedupPoints pts).length) ∧
    (∀ j, j < (dedupPoints pts).length → ∃ v, v < pts.length ∧ dedupMap pts v = j) := by
  refine ⟨nodup_unique _, fun v hv => List.idxOf_lt_length_of_mem (mem_unique.mpr (getD_mem _ _ hv)),
    fun j hj => ?_⟩
  obtain ⟨v, hv, e⟩ := List.getElem_of_mem (mem_unique.mp (List.getElem_mem hj))
  refine ⟨v, hv, ?_⟩
  rw [dedupMap, getD_eq_getElem _ _ hv, e]
  exact (nodup_unique pts).idxOf_getElem j hj

/-- **`@` (repaired)**: for any number of meshes, a cell of mesh `i` keeps, in the common
    deduplicated point array, the coordinates it has in mesh `i` -/
theorem C18_matmul_cells_geometric (ps : List (List α)) (i : Nat) (hi : i < ps.length)
    (c : List Nat) (hc : ∀ v ∈ c, v < (ps.getD i []).length) :
    cellCoords (dedupPoints ps.flatten)
        ((c.map (· + (stackOffsets (ps.map List.length)).getD i 0)).map (dedupMap ps.flatten))
      = cellCoords (ps.getD i []) c := by
  have hoff : (stackOffsets (ps.map List.length)).getD i 0 = ((ps.map List.length).take i).sum := by
    rw [stackOffsets, List.length_map, getD_map_range _ 0 hi, prefixSum_eq]
  have hpos : ∀ v ∈ c, ps.flatten[v + (stackOffsets (ps.map List.length)).getD i 0]?
      = some ((ps.getD i []).getD v default) := fun v hv => by
    rw [hoff, Nat.add_comm, getElem?_flatten_add ps i v (hc v hv), List.getElem?_eq_getElem (hc v hv),
      getD_eq_getElem _ _ (hc v hv)]
  rw [C18_dedup_cells_geometric ps.flatten _ fun w hw => by
    obtain ⟨v, hv, rfl⟩ := List.mem_map.mp hw
    exact (List.getElem?_eq_some_iff.mp (hpos v hv)).1]
  simp only [cellCoords, List.map_map]
  exact List.map_congr_left fun v hv => getD_eq_of_getElem?_eq_some (hpos v hv) default

/-- **`+`**: in the joined mesh the cells of the left mesh keep their coordinates
    w.r.t. the left points and the cells of the right mesh theirs w.r.t. the right points -/
theorem C18_join_cells_geometric (p1 p2 : List α) (c : List Nat) :
    ((∀ v ∈ c, v < p1.length) →
      cellCoords (dedupPoints (p1 ++ p2)) (c.map (dedupMap (p1 ++ p2))) = cellCoords p1 c) ∧
    ((∀ v ∈ c, v < p2.length) →
      cellCoords (dedupPoints (p1 ++ p2)) ((c.map (· + p1.length)).map (dedupMap (p1 ++ p2)))
        = cellCoords p2 c) := by
  have h0 := C18_matmul_cells_geometric [p1, p2] 0 (Nat.zero_lt_succ _) c
  have h1 := C18_matmul_cells_geometric [p1, p2] 1 (Nat.lt_succ_self _) c
  simp only [List.flatten_cons, List.flatten_nil, List.append_nil, stackOffsets, List.map_cons,
    List.map_nil, List.length_cons, List.length_nil, List.range_succ, List.range_zero,
    List.nil_append, List.cons_append, prefixSum, List.getD_cons_zero, List.getD_cons_succ,
    Nat.add_zero, List.map_id'] at h0 h1
  exact ⟨h0, h1⟩

end Dedup

instance : StrictTotal Int where
  irrefl := Int.lt_irrefl
  trans := fun _ _ _ => Int.lt_trans
  tri := fun a b => by omega

/-- the pinned code shifts every mesh of the list by the size of the first mesh only:
    `m1 @ [m2, m3]` with three disjoint one-cell line meshes gives mesh 3 the cell of mesh 2 -/
theorem C18_matmul_old_counterexample :
    let ps : List (List Int) := [[0, 1], [2, 3], [4, 5]]
    let ts : List (List (List Nat)) := [[[0, 1]], [[0, 1]], [[0, 1]]]
    matmulCellsOld ps ts = [[[0, 1]], [[2, 3]], [[2, 3]]] ∧
    matmulCells ps ts = [[[0, 1]], [[2, 3]], [[4, 5]]] := by
  decide +kernel

example : joinCells ([0, 1] : List Int) [1, 2] [[0, 1]] [[0, 1]] = [[0, 1], [1, 2]] := by decide
example : dedupPoints ([3, 1, 3, 2] : List Int) = [1, 2, 3] := by decide

/-! ## E. splitting into simplices: `to_meshtri`, `to_meshtet` -/

/-- **children of a split**: child number `i * nt + k` is template `i` applied to parent
    cell `k`, and all its vertices are vertices of that parent -/
theorem C18_split_child (templ cells : List (List Nat)) (i k : Nat)
    (hi : i < templ.length) (hk : k < cells.length) (hwf : ∀ v ∈ templ[i], v < cells[k].length) :
    ∃ h : i * cells.length + k < (splitCells templ cells).length,
      (splitCells templ cells)[i * cells.length + k] = slotCol cells[k] templ[i] ∧
      ∀ w ∈ (splitCells templ cells)[i * cells.length + k], w ∈ cells[k] := by
  obtain ⟨h1, h2⟩ := indexing_getElem cells templ i k hi hk
  exact ⟨h1, h2, fun w hw => mem_slotCol hwf (h2 ▸ hw)⟩

/-- **`j % nt` is the parent**: every vertex of child `j < nblocks * nt` is a vertex of cell
    `j % nt` -/
theorem C18_split_parent_mod (templ cells : List (List Nat)) (j : Nat)
    (hj : j < templ.length * cells.length)
    (hwf : ∀ tpl ∈ templ, ∀ c ∈ cells, ∀ v ∈ tpl, v < c.length) :
    ∃ (hk : j % cells.length < cells.length) (h : j < (splitCells templ cells).length),
      ∀ w ∈ (splitCells templ cells)[j], w ∈ cells[j % cells.length] := by
  revert j
  rw [forall_lt_mul_iff]
  intro i k hi hk
  obtain ⟨h1, _, h3⟩ := C18_split_child templ cells i k hi hk
    (hwf _ (List.getElem_mem hi) _ (List.getElem_mem hk))
  have e := Nat.mul_add_mod_of_lt (a := i) hk
  exact ⟨e.symm ▸ hk, h1, by simpa only [e] using h3⟩

/-- **subdomains of a split**: `concatenate((v, v + nt, …))` contains child `j` iff it
    contains the parent `j % nt` -/
theorem C18_split_subdomains (nt nblocks : Nat) (sub : List Nat) (hsub : ∀ s ∈ sub, s < nt)
    (j : Nat) (hj : j < nblocks * nt) :
    j ∈ splitSub nt nblocks sub ↔ j % nt ∈ sub := by
  revert j
  rw [forall_lt_mul_iff]
  intro i k hi hk
  simp only [Nat.mul_add_mod_of_lt hk, splitSub, List.mem_flatMap, List.mem_range, List.mem_map]
  constructor
  · rintro ⟨i', _, s, hs, e⟩
    exact (mul_add_inj hk (hsub s hs) (Nat.add_comm .. ▸ e)).2 ▸ hs
  · exact fun h => ⟨i, hi, k, h, Nat.add_comm ..⟩

def triRef : List (List Nat) := [[0, 1], [1, 2], [0, 2]]
def quadRef : List (List Nat) := [[0, 1], [1, 2], [2, 3], [0, 3]]

/-- **every edge of a quadrilateral is a facet of the split mesh**: the facet that the lookup of
    `to_meshtri` searches for is present -/
theorem C18_to_meshtri_facets_present (cells : List (List Nat)) (e : List Nat)
    (he : e ∈ entitiesSorted cells quadRef) :
    e ∈ entitiesSorted (splitCells quadToTri cells) triRef :=
  mem_entitiesSorted_split (by decide) cells he

/-- the same for the crisscross style (local vertex 4 = centroid) -/
theorem C18_to_meshtri_x_facets_present (cells : List (List Nat)) (e : List Nat)
    (he : e ∈ entitiesSorted cells quadRef) :
    e ∈ entitiesSorted (splitCells quadToTriX cells) triRef :=
  mem_entitiesSorted_split (by decide) cells he

theorem enumFromN_cons {β : Type} (n : Nat) (x : β) (xs : List β) :
    enumFromN n (x :: xs) = (n, x) :: enumFromN (n + 1) xs := rfl

/-- `to_meshtri` walks one iterator over the new facets for all old facets of a tag.  This returns
    the position of every facet in the new facet table provided the tag's facets are visited in
    ascending order without repetition (they are: `np.sort(boundaries[k])` of lexicographically
    numbered facets) and each is present (`C18_to_meshtri_facets_present`). -/
theorem C18_to_meshtri_facet_scan :
    ∀ (L : List (List Nat)) (n : Nat) (fs : List (List Nat)),
      L.Pairwise (· < ·) → fs.Pairwise (· < ·) → (∀ f ∈ fs, f ∈ L) →
      scanLookup (enumFromN n L) fs = some (fs.map (fun f => n + L.idxOf f))
  | _, _, [], _, _, _ => by simp [scanLookup]
  | [], _, f :: _, _, _, hm => by have := hm f (by simp); simp at this
  | x :: xs, n, f :: fs, hL, hfs, hm => by
    rw [List.pairwise_cons] at hL hfs
    -- facets still to be found lie behind `x`, so they are in `xs` and their positions shift by one
    have shift : ∀ fs' : List (List Nat), (∀ g ∈ fs', x < g) → (∀ g ∈ fs', g ∈ x :: xs) →
        (∀ g ∈ fs', g ∈ xs) ∧
        fs'.map (fun g => n + 1 + xs.idxOf g) = fs'.map (fun g => n + (x :: xs).idxOf g) := by
      intro fs' hlt hmem
      have hne : ∀ g ∈ fs', ¬ x = g := fun g hg e => List.lt_irrefl x (e ▸ hlt g hg)
      exact ⟨fun g hg => (List.mem_cons.mp (hmem g hg)).resolve_left fun e => hne g hg e.symm,
        List.map_congr_left fun g hg => by rw [idxOf_cons_ne (hne g hg)]; omega⟩
    by_cases hxf : x = f
    · subst hxf
      obtain ⟨hrest, e⟩ := shift fs hfs.1 fun g hg => hm g (List.mem_cons_of_mem _ hg)
      have ih := C18_to_meshtri_facet_scan xs (n + 1) fs hL.2 hfs.2 hrest
      simp only [enumFromN_cons, scanLookup, List.dropWhile_cons, beq_self_eq_true,
        Bool.not_true, Bool.false_eq_true, if_false, ih, Option.map_some, List.map_cons,
        List.idxOf_cons_self, Nat.add_zero, e]
    · have hfx : x < f :=
        hL.1 f ((List.mem_cons.mp (hm f List.mem_cons_self)).resolve_left (Ne.symm hxf))
      obtain ⟨hrest, e⟩ := shift (f :: fs)
        (List.forall_mem_cons.mpr ⟨hfx, fun g hg => List.lt_trans hfx (hfs.1 g hg)⟩) hm
      have ih := C18_to_meshtri_facet_scan xs (n + 1) (f :: fs) hL.2
        (List.pairwise_cons.mpr hfs) hrest
      have step : scanLookup (enumFromN n (x :: xs)) (f :: fs)
          = scanLookup (enumFromN (n + 1) xs) (f :: fs) := by
        simp [enumFromN_cons, scanLookup, hxf]
      rw [step, ih, e]

/-- the iterator is not rewound: visiting the facets out of order loses one (StopIteration) -/
theorem C18_to_meshtri_facet_scan_needs_sorted :
    triFacetLookup [[0, 1], [0, 2], [1, 2]] [[1, 2], [0, 1]] = none ∧
    triFacetLookup [[0, 1], [0, 2], [1, 2]] [[0, 1], [1, 2]] = some [0, 2] := by decide

example : splitCells quadToTri [[0, 1, 2, 3], [1, 4, 5, 2]]
    = [[0, 1, 3], [1, 4, 2], [1, 2, 3], [4, 5, 2]] := by decide
example : splitSub 3 2 [0, 2] = [0, 2, 3, 5] := by decide

/-! ## F. extrusion `MeshTri1 * MeshLine1` -/

/-- **extrusion, connectivity**: wedge number `i * nt + k` (layer `i`, base cell `k`) is the
    base cell at level `i` stacked under the base cell at level `i + 1` -/
theorem C18_extrude_cells (nv : Nat) (cells : List (List Nat)) (nlayers i k : Nat)
    (hi : i < nlayers) (hk : k < cells.length) :
    ∃ h : i * cells.length + k < (extrudeCells nv cells nlayers).length,
      (extrudeCells nv cells nlayers)[i * cells.length + k]
        = cells[k].map (· + i * nv) ++ cells[k].map (· + (i + 1) * nv) := by
  obtain ⟨h, e⟩ := getElem_flatMap_map (List.range nlayers) cells
    (fun i c => c.map (· + i * nv) ++ c.map (· + (i + 1) * nv)) i k (by simpa using hi) hk
  exact ⟨h, e.trans (by rw [List.getElem_range])⟩

/-- **extrusion, points**: vertex `v + i * nv` of the extruded mesh is base vertex `v` with
    the extra coordinate `zs[i]` -/
theorem C18_extrude_points {γ : Type} (pts : List (List γ)) (zs : List γ) (i v : Nat)
    (hi : i < zs.length) (hv : v < pts.length) :
    ∃ h : i * pts.length + v < (extrudePoints pts zs).length,
      (extrudePoints pts zs)[i * pts.length + v] = pts[v] ++ [zs[i]] :=
  getElem_flatMap_map zs pts (fun z p => p ++ [z]) i v hi hv

example : extrudeCells 4 [[0, 1, 2], [1, 3, 2]] 2
    = [[0, 1, 2, 4, 5, 6], [1, 3, 2, 5, 7, 6], [4, 5, 6, 8, 9, 10], [5, 7, 6, 9, 11, 10]] := by decide

/-! ## G. affine coordinate maps: `scaled`, `translated`, `mirrored` (any field, e.g. ℚ) -/

section Affine
variable {K : Type} [Field K]

def det2 (a0 a1 b0 b1 : K) : K := a0 * b1 - a1 * b0
def det3 (a0 a1 a2 b0 b1 b2 c0 c1 c2 : K) : K :=
  a0 * (b1 * c2 - b2 * c1) - a1 * (b0 * c2 - b2 * c0) + a2 * (b0 * c1 - b1 * c0)

/-- **scaling, 2-D**: the signed area spanned by two edge vectors is multiplied by `fx * fy` -/
theorem C18_scaled_det2 (fx fy a0 a1 b0 b1 : K) :
    det2 (fx * a0) (fy * a1) (fx * b0) (fy * b1) = (fx * fy) * det2 a0 a1 b0 b1 := by
  simp only [det2]; ring

/-- scaling, 3-D: volumes are multiplied by `fx * fy * fz` -/
theorem C18_scaled_det3 (fx fy fz a0 a1 a2 b0 b1 b2 c0 c1 c2 : K) :
    det3 (fx * a0) (fy * a1) (fz * a2) (fx * b0) (fy * b1) (fz * b2) (fx * c0) (fy * c1) (fz * c2)
      = (fx * fy * fz) * det3 a0 a1 a2 b0 b1 b2 c0 c1 c2 := by
  simp only [det3]; ring

/-- translation leaves every edge vector, hence every measure, unchanged -/
theorem C18_translated_edge (p q d : K) : (p + d) - (q + d) = p - q := by ring

/-- reflection `x ↦ x - 2 (n·(x - p0)) / (n·n) n`, 2-D, both components -/
def mir2 (n0 n1 a0 a1 x0 x1 : K) : K × K :=
  let s := 2 * (n0 * (x0 - a0) + n1 * (x1 - a1)) / (n0 * n0 + n1 * n1)
  (x0 - s * n0, x1 - s * n1)

def mir3 (n0 n1 n2 a0 a1 a2 x0 x1 x2 : K) : K × K × K :=
  let s := 2 * (n0 * (x0 - a0) + n1 * (x1 - a1) + n2 * (x2 - a2)) / (n0 * n0 + n1 * n1 + n2 * n2)
  (x0 - s * n0, x1 - s * n1, x2 - s * n2)

/-- the reflection coefficient `s = 2 d / D` (`d = n·(x - a)`, `D = n·n`) changes sign under the
    reflection, because `n·(x' - a) = d - s D = -d` -/
theorem mirror_coeff {d D : K} (hD : D ≠ 0) : 2 * (d - 2 * d / D * D) / D = -(2 * d / D) := by
  rw [div_mul_cancel₀ _ hD]; ring

theorem mirror_back (x s n : K) : x - s * n - -s * n = x := by ring

/-- **mirror is an involution** (2-D), for every normal with `n·n ≠ 0` -/
theorem C18_mirror_involution2 (n0 n1 a0 a1 x0 x1 : K) (hn : n0 * n0 + n1 * n1 ≠ 0) :
    mir2 n0 n1 a0 a1 (mir2 n0 n1 a0 a1 x0 x1).1 (mir2 n0 n1 a0 a1 x0 x1).2 = (x0, x1) := by
  have e : ∀ s : K, n0 * (x0 - s * n0 - a0) + n1 * (x1 - s * n1 - a1)
      = n0 * (x0 - a0) + n1 * (x1 - a1) - s * (n0 * n0 + n1 * n1) := fun s => by ring
  simp only [mir2, e, mirror_coeff hn, mirror_back]

/-- mirror is an involution (3-D) -/
theorem C18_mirror_involution3 (n0 n1 n2 a0 a1 a2 x0 x1 x2 : K)
    (hn : n0 * n0 + n1 * n1 + n2 * n2 ≠ 0) :
    mir3 n0 n1 n2 a0 a1 a2 (mir3 n0 n1 n2 a0 a1 a2 x0 x1 x2).1
      (mir3 n0 n1 n2 a0 a1 a2 x0 x1 x2).2.1 (mir3 n0 n1 n2 a0 a1 a2 x0 x1 x2).2.2
      = (x0, x1, x2) := by
  have e : ∀ s : K, n0 * (x0 - s * n0 - a0) + n1 * (x1 - s * n1 - a1) + n2 * (x2 - s * n2 - a2)
      = n0 * (x0 - a0) + n1 * (x1 - a1) + n2 * (x2 - a2)
        - s * (n0 * n0 + n1 * n1 + n2 * n2) := fun s => by ring
  simp only [mir3, e, mirror_coeff hn, mirror_back]

/-- **mirror preserves measures**: the signed area spanned by two mirrored edge vectors is the
    negative of the original one (same absolute value, orientation flipped) -/
theorem C18_mirror_det2 (n0 n1 u0 u1 v0 v1 : K) (hn : n0 * n0 + n1 * n1 ≠ 0) :
    det2 (mir2 n0 n1 0 0 u0 u1).1 (mir2 n0 n1 0 0 u0 u1).2
         (mir2 n0 n1 0 0 v0 v1).1 (mir2 n0 n1 0 0 v0 v1).2 = - det2 u0 u1 v0 v1 := by
  -- `det2` is bilinear and `(n·v) det2 u n + (n·u) det2 n v = (n·n) det2 u v`
  have key : ∀ i : K,
      det2 (u0 - 2 * (n0 * u0 + n1 * u1) * i * n0) (u1 - 2 * (n0 * u0 + n1 * u1) * i * n1)
        (v0 - 2 * (n0 * v0 + n1 * v1) * i * n0) (v1 - 2 * (n0 * v0 + n1 * v1) * i * n1)
      = (1 - 2 * ((n0 * n0 + n1 * n1) * i)) * det2 u0 u1 v0 v1 := fun i => by
    simp only [det2]; ring
  simp only [mir2, sub_zero, div_eq_mul_inv, key, mul_inv_cancel₀ hn]
  ring

end Affine

/-! ## H. histories: a sequence of restrictions is one restriction -/

theorem mem_flatten_map {σ : Nat → Nat} {cs : List (List Nat)} {w : Nat}
    (h : w ∈ (cs.map (fun c => c.map σ)).flatten) : ∃ v ∈ cs.flatten, w = σ v := by
  obtain ⟨c', hc', hw⟩ := List.mem_flatten.mp h
  obtain ⟨c, hc, rfl⟩ := List.mem_map.mp hc'
  obtain ⟨v, hv, rfl⟩ := List.mem_map.mp hw
  exact ⟨v, List.mem_flatten.mpr ⟨c, hc, hv⟩, rfl⟩

/-- the rank numbering does not see an order preserving renumbering of the input -/
theorem reixCells_map (σ : Nat → Nat) (cs : List (List Nat)) (hσ : MonoOn σ (· ∈ cs.flatten)) :
    reixCells (cs.map (fun c => c.map σ)) = reixCells cs := by
  have hU : reixUsed (cs.map (fun c => c.map σ)) = (reixUsed cs).map σ := by
    rw [reixUsed, ← List.map_flatten]
    exact unique_map σ cs.flatten fun a ha b hb => hσ a b ha hb
  simp only [reixCells, List.map_map, Function.comp_def]
  refine List.map_congr_left fun c hc => List.map_congr_left fun v hv => ?_
  have hvm : v ∈ cs.flatten := List.mem_flatten_of_mem hc hv
  rw [reixMap, hU]
  refine idxOf_map_of_injOn σ _ v (mem_used.mpr hvm) fun x hx hxe => ?_
  have hxm := mem_used.mp hx
  rcases Nat.lt_trichotomy x v with h | h | h
  · have := hσ x v hxm hvm h; omega
  · exact h
  · have := hσ v x hvm hxm h; omega

/-- **composition**: restricting to `e1` and then (in the new numbering) to `e2` gives the
    connectivity of restricting the original mesh to `e1[e2]`; points and tags of the composition
    are not in the statement -/
theorem C18_compose (cells : List (List Nat)) (e1 e2 : List Nat) (h2 : ∀ j ∈ e2, j < e1.length) :
    restrictCells (restrictCells cells e1) e2
      = restrictCells cells (e2.map (fun j => e1.getD j 0)) := by
  let S1 := selectCells cells e1
  have h2' : ∀ j ∈ e2, j < S1.length := fun j hj => (List.length_map _).symm ▸ h2 j hj
  have hmono : MonoOn (reixMap S1) (· ∈ (selectCells S1 e2).flatten) := by
    have sub : ∀ v, v ∈ (selectCells S1 e2).flatten → v ∈ S1.flatten := fun v hv => by
      obtain ⟨c, hc, hvc⟩ := List.mem_flatten.mp hv
      exact List.mem_flatten_of_mem (mem_selectCells h2' hc) hvc
    exact fun a b ha hb => reixMap_monoOn S1 a b (sub a ha) (sub b hb)
  show reixCells (selectCells (S1.map fun c => c.map (reixMap S1)) e2) = _
  rw [selectCells_map _ S1 e2 h2', reixCells_map _ _ hmono]
  exact congrArg reixCells (map_getD_map _ e1 0 [] h2)

example : restrictCells (restrictCells [[0, 1, 2], [1, 2, 3], [2, 3, 4]] [2, 0]) [1]
    = restrictCells [[0, 1, 2], [1, 2, 3], [2, 3, 4]] [0] := by decide

end Skv.C18
