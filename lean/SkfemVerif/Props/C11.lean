import SkfemVerif.Lemmas.Topology
import SkfemVerif.Lemmas.TopologyInverse
/-
C11  Derived mesh connectivity is coherent with the cell list.

Model: `Skv.buildEntities`, `Skv.buildInverse` (Model/Topology.lean), tied to
`Mesh.build_entities` / `Mesh.build_inverse` by the correspondence ops
`topo.entities`, `topo.inverse` (exact array comparison on every run).

`ref` is any reference table (facets or edges of any reference cell, including the wedge's
repeated-index facets).  The theorems on `f2t` are about `buildInverse nt mapping`, `firstCell`,
`lastCell` for an ARBITRARY slot table `mapping` with rows of length `nt`, not only for
`entityMapping cells ref`.
-/
namespace Skv.C11

/-- each facet / edge appears once -/
theorem C11_entities_nodup (cells ref : List (List Nat)) :
    (entitiesSorted cells ref).Nodup :=
  nodup_unique _

/-- the stored entities are in strictly ascending lexicographic order
    (what `np.unique(axis=1)` returns; the facet numbering is canonical) -/
theorem C11_entities_lex_sorted (cells ref : List (List Nat)) :
    (entitiesSorted cells ref).Pairwise (· < ·) :=
  pairwise_unique _

/-- every stored entity is a local entity of some cell (nothing spurious) -/
theorem C11_entities_complete (cells ref : List (List Nat)) (ent : List Nat)
    (h : ent ∈ entitiesSorted cells ref) :
    ∃ slot ∈ ref, ∃ c ∈ cells, ent = sortCol (slotCol c slot) :=
  mem_entitiesSorted.mp h

/-- every local entity of every cell is stored -/
theorem C11_entities_cover (cells ref : List (List Nat)) (slot c : List Nat)
    (hs : slot ∈ ref) (hc : c ∈ cells) :
    sortCol (slotCol c slot) ∈ entitiesSorted cells ref :=
  mem_entitiesSorted.mpr ⟨slot, hs, c, hc, rfl⟩

/-- the entity named by `t2f[i][k]` (resp. `t2e[i][k]`) is the sorted vertex tuple of the local
    entity `ref[i]` of cell `k` -/
theorem C11_slot_spec (cells ref : List (List Nat)) (i k : Nat)
    (hi : i < ref.length) (hk : k < cells.length) :
    ∃ (h1 : i < (entityMapping cells ref).length)
      (h2 : k < ((entityMapping cells ref)[i]).length)
      (h3 : ((entityMapping cells ref)[i])[k] < (entitiesSorted cells ref).length),
      (entitiesSorted cells ref)[((entityMapping cells ref)[i])[k]]
        = sortCol (slotCol cells[k] ref[i]) := by
  obtain ⟨h1, h2, e⟩ := entityMapping_entry cells ref i k hi hk
  have hm := C11_entities_cover cells ref _ _ (List.getElem_mem hi) (List.getElem_mem hk)
  refine ⟨h1, h2, e ▸ List.idxOf_lt_length_of_mem hm, ?_⟩
  simp only [e]
  exact List.getElem_idxOf _

/-- the named entity has exactly the vertices of the local entity -/
theorem C11_slot_vertices (cells ref : List (List Nat)) (i k : Nat)
    (hi : i < ref.length) (hk : k < cells.length) (v : Nat) :
    v ∈ (entitiesSorted cells ref).getD (((entityMapping cells ref).getD i []).getD k 0) []
      ↔ v ∈ slotCol cells[k] ref[i] := by
  obtain ⟨h1, h2, h3, e⟩ := C11_slot_spec cells ref i k hi hk
  rw [getD_eq_getElem _ _ h1, getD_eq_getElem _ _ h2, getD_eq_getElem _ _ h3, e, mem_sortCol]

/-- sharing: two slots (possibly of different cells) carry the same entity number iff their local
    entities have the same sorted vertex tuple -/
theorem C11_same_entity_iff (cells ref : List (List Nat)) (i k i' k' : Nat)
    (hi : i < ref.length) (hk : k < cells.length) (hi' : i' < ref.length) (hk' : k' < cells.length) :
    ((entityMapping cells ref).getD i []).getD k 0 = ((entityMapping cells ref).getD i' []).getD k' 0
      ↔ sortCol (slotCol cells[k] ref[i]) = sortCol (slotCol cells[k'] ref[i']) := by
  obtain ⟨h1, h2, e⟩ := entityMapping_entry cells ref i k hi hk
  obtain ⟨h1', h2', e'⟩ := entityMapping_entry cells ref i' k' hi' hk'
  rw [getD_eq_getElem _ _ h1, getD_eq_getElem _ _ h2, getD_eq_getElem _ _ h1',
    getD_eq_getElem _ _ h2', e, e']
  exact idxOf_inj (C11_entities_cover cells ref _ _ (List.getElem_mem hi) (List.getElem_mem hk))

/-- independence of the vertex numbering, for two vertex tuples: after an injective renumbering
    `σ` (`τ` a left inverse) their sorted tuples are rearrangements of each other iff they were
    before -/
theorem C11_sortCol_renumber (σ τ : Nat → Nat) (hτ : ∀ x, τ (σ x) = x) (a b : List Nat) :
    (sortCol (a.map σ)).Perm (sortCol (b.map σ)) ↔ (sortCol a).Perm (sortCol b) := by
  rw [(perm_sortCol _).congr_left, (perm_sortCol _).congr_right, (perm_sortCol a).congr_left,
    (perm_sortCol b).congr_right]
  refine ⟨fun h => ?_, .map σ⟩
  simpa [Function.comp_def, hτ] using h.map τ

/-- row 1 of `f2t` holds `-1` or a cell number; hence boundary and interior facets partition
    the facets. -/
theorem C11_boundary_interior_partition (nt : Nat) (mapping : List (List Nat)) (f : Nat)
    (hf : f < (buildInverse nt mapping).2.length) :
    (f ∈ boundaryFacets (buildInverse nt mapping).2 ∧ f ∉ interiorFacets (buildInverse nt mapping).2)
    ∨ (f ∉ boundaryFacets (buildInverse nt mapping).2 ∧ f ∈ interiorFacets (buildInverse nt mapping).2) := by
  simp only [boundaryFacets, interiorFacets, List.mem_filter, List.mem_range, hf, true_and]
  rw [buildInverse_snd_getD nt mapping f ((length_buildInverse nt mapping).2 ▸ hf)]
  split
  · left; simp
  · right; simp

/-- `firstCell`, which `buildInverse` stores as `f2t[0][f]` (`buildInverse_fst_getD`), is a cell
    that names `f` in one of its slots.  `hnt` is not needed. -/
theorem C11_f2t0_contains (nt : Nat) (hnt : 0 < nt) (mapping : List (List Nat))
    (hrows : ∀ r ∈ mapping, r.length = nt) (f : Nat) (hf : f ∈ mapping.flatten) :
    ∃ i, ∃ hi : i < mapping.length,
      ∃ hk : firstCell nt mapping.flatten f < (mapping[i]).length,
        (mapping[i])[firstCell nt mapping.flatten f] = f := by
  have hpos := List.idxOf_lt_length_of_mem hf
  obtain ⟨hi, hk, h⟩ := flatten_getElem_div_mod mapping nt hrows _ hpos
  exact ⟨_, hi, hk, h.trans (List.getElem_idxOf hpos)⟩

/-- `lastCell`, which `buildInverse` stores as `f2t[1][f]` unless it equals `firstCell`
    (`buildInverse_snd_getD`), is a cell that names `f` as well.  `hnt` is not needed. -/
theorem C11_f2t1_contains (nt : Nat) (hnt : 0 < nt) (mapping : List (List Nat))
    (hrows : ∀ r ∈ mapping, r.length = nt) (f : Nat) (hf : f ∈ mapping.flatten) :
    ∃ i, ∃ hi : i < mapping.length,
      ∃ hk : lastCell nt mapping.flatten f < (mapping[i]).length,
        (mapping[i])[lastCell nt mapping.flatten f] = f := by
  obtain ⟨hpos, hget⟩ := lastPos_spec mapping.flatten f hf
  obtain ⟨hi, hk, h⟩ := flatten_getElem_div_mod mapping nt hrows _ hpos
  exact ⟨_, hi, hk, h.trans hget⟩

/-- if the facet `f` is named in at most two slots of the whole table (manifold hypothesis: a facet
    lies in at most two cells, and a cell names it once), the cells naming `f` are exactly
    `firstCell` (`f2t[0][f]`) and `lastCell` (`f2t[1][f]` when different).  The default `f + 1` of
    `getD` only makes a read outside the row not count as naming `f`; under `hk`, `hrows` every
    read is inside. -/
theorem C11_f2t_spec (nt : Nat) (hnt : 0 < nt) (mapping : List (List Nat))
    (hrows : ∀ r ∈ mapping, r.length = nt) (f : Nat) (hf : f ∈ mapping.flatten)
    (htwo : mapping.flatten.count f ≤ 2) (k : Nat) (hk : k < nt) :
    (∃ i, ∃ hi : i < mapping.length, (mapping[i]).getD k (f + 1) = f)
      ↔ (k = firstCell nt mapping.flatten f ∨ k = lastCell nt mapping.flatten f) := by
  constructor
  · rintro ⟨i, hi, h⟩
    have hkl : k < (mapping[i]).length := by rw [hrows _ (List.getElem_mem hi)]; exact hk
    have hval : (mapping[i])[k] = f := getD_eq_getElem _ _ hkl ▸ h
    have hpos : mapping.flatten[i * nt + k]? = some f := by
      rw [flatten_getElem?_of_uniform mapping nt hrows i k hk, List.getElem?_eq_getElem hi,
        Option.bind_some, List.getElem?_eq_getElem hkl, hval]
    obtain ⟨h1, h2⟩ := List.getElem?_eq_some_iff.mp hpos
    have hmod := Nat.mul_add_mod_of_lt (a := i) hk
    rcases pos_first_or_last mapping.flatten f (i * nt + k) h1 h2 htwo with hc | hc
    · left
      rw [firstCell, ← hc, hmod]
    · right
      rw [lastCell, ← hc, hmod]
  · rintro (h | h)
    · obtain ⟨i, hi, hk', hv⟩ := C11_f2t0_contains nt hnt mapping hrows f hf
      exact ⟨i, hi, by rw [h, getD_eq_getElem _ _ hk', hv]⟩
    · obtain ⟨i, hi, hk', hv⟩ := C11_f2t1_contains nt hnt mapping hrows f hf
      exact ⟨i, hi, by rw [h, getD_eq_getElem _ _ hk', hv]⟩

/-- `-1` in row 1 marks exactly the facets with a single neighbour: the value is `-1` iff first and
    last naming cell coincide -/
theorem C11_f2t_boundary_iff (nt : Nat) (mapping : List (List Nat)) (f : Nat)
    (hf : f < listMax mapping.flatten + 1) :
    (buildInverse nt mapping).2.getD f 0 = -1
      ↔ firstCell nt mapping.flatten f = lastCell nt mapping.flatten f := by
  rw [buildInverse_snd_getD nt mapping f hf]
  split <;> simp [*]

-- two triangles sharing an edge

example : buildEntities [[0, 1, 2], [1, 2, 3]] [[0, 1], [1, 2], [0, 2]] true
    = ([[0, 1], [0, 2], [1, 2], [1, 3], [2, 3]], [[0, 2], [2, 4], [1, 3]]) := by decide

example : buildInverse 2 [[0, 2], [2, 4], [1, 3]]
    = ([0, 0, 1, 1, 1], [-1, -1, 0, -1, -1]) := by decide

end Skv.C11
