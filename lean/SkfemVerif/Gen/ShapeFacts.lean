import SkfemVerif.Gen.Shapes
import SkfemVerif.Lemmas.PolyCheck
/-
GENERATED by harness/skv/gens/shapes.py: kernel-checked facts about the traced shape functions
(`decide +kernel`, no axioms beyond Lean's standard ones; the checks that compare polynomials with
`Poly.close` are evaluated in the equal form `C09.closeN`) -- do not edit.
-/
namespace Skv.Gen.Shapes
open Skv

theorem ElementLineP0_grad_ok : checkGrad 1 ElementLineP0_vals ElementLineP0_grads shapeTol = true := by rw [checkGrad, C09.close_eq_closeN]; decide +kernel
theorem ElementLineP0_deg_ok : checkDeg ElementLineP0_vals 0 = true := by decide +kernel
theorem ElementLineP0_dual_ok : checkDual ElementLineP0_vals [(0, [(mkRat (1) 2)])] shapeTol = true := by decide +kernel
theorem ElementLineP0_pou_ok : checkPou 1 ElementLineP0_vals [0] shapeTol = true := by rw [checkPou, C09.close_eq_closeN]; decide +kernel

theorem ElementLineP1_grad_ok : checkGrad 1 ElementLineP1_vals ElementLineP1_grads shapeTol = true := by rw [checkGrad, C09.close_eq_closeN]; decide +kernel
theorem ElementLineP1_deg_ok : checkDeg ElementLineP1_vals 1 = true := by decide +kernel
theorem ElementLineP1_dual_ok : checkDual ElementLineP1_vals [(0, [(0 : Rat)]), (1, [(1 : Rat)])] shapeTol = true := by decide +kernel
theorem ElementLineP1_pou_ok : checkPou 1 ElementLineP1_vals [0, 1] shapeTol = true := by rw [checkPou, C09.close_eq_closeN]; decide +kernel

theorem ElementLineP1DG_grad_ok : checkGrad 1 ElementLineP1DG_vals ElementLineP1DG_grads shapeTol = true := ElementLineP1_grad_ok
theorem ElementLineP1DG_deg_ok : checkDeg ElementLineP1DG_vals 1 = true := ElementLineP1_deg_ok
theorem ElementLineP1DG_dual_ok : checkDual ElementLineP1DG_vals [(0, [(0 : Rat)]), (1, [(1 : Rat)])] shapeTol = true := ElementLineP1_dual_ok
theorem ElementLineP1DG_pou_ok : checkPou 1 ElementLineP1DG_vals [0, 1] shapeTol = true := ElementLineP1_pou_ok

theorem ElementLineP2_grad_ok : checkGrad 1 ElementLineP2_vals ElementLineP2_grads shapeTol = true := by rw [checkGrad, C09.close_eq_closeN]; decide +kernel
theorem ElementLineP2_deg_ok : checkDeg ElementLineP2_vals 2 = true := by decide +kernel
theorem ElementLineP2_dual_ok : checkDual ElementLineP2_vals [(0, [(0 : Rat)]), (1, [(1 : Rat)]), (2, [(mkRat (1) 2)])] shapeTol = true := by decide +kernel
theorem ElementLineP2_pou_ok : checkPou 1 ElementLineP2_vals [0, 1, 2] shapeTol = true := by rw [checkPou, C09.close_eq_closeN]; decide +kernel

theorem ElementLineMini_grad_ok : checkGrad 1 ElementLineMini_vals ElementLineMini_grads shapeTol = true := by rw [checkGrad, C09.close_eq_closeN]; decide +kernel
theorem ElementLineMini_deg_ok : checkDeg ElementLineMini_vals 2 = true := by decide +kernel
theorem ElementLineMini_dual_ok : checkDual ElementLineMini_vals [(0, [(0 : Rat)]), (1, [(1 : Rat)])] shapeTol = true := by decide +kernel
theorem ElementLineMini_pou_ok : checkPou 1 ElementLineMini_vals [0, 1] shapeTol = true := by rw [checkPou, C09.close_eq_closeN]; decide +kernel

theorem ElementTriP1_grad_ok : checkGrad 2 ElementTriP1_vals ElementTriP1_grads shapeTol = true := by rw [checkGrad, C09.close_eq_closeN]; decide +kernel
theorem ElementTriP1_deg_ok : checkDeg ElementTriP1_vals 1 = true := by decide +kernel
theorem ElementTriP1_dual_ok : checkDual ElementTriP1_vals [(0, [(0 : Rat), (0 : Rat)]), (1, [(1 : Rat), (0 : Rat)]), (2, [(0 : Rat), (1 : Rat)])] shapeTol = true := by decide +kernel
theorem ElementTriP1_pou_ok : checkPou 2 ElementTriP1_vals [0, 1, 2] shapeTol = true := by rw [checkPou, C09.close_eq_closeN]; decide +kernel

theorem ElementTriP2_grad_ok : checkGrad 2 ElementTriP2_vals ElementTriP2_grads shapeTol = true := by rw [checkGrad, C09.close_eq_closeN]; decide +kernel
theorem ElementTriP2_deg_ok : checkDeg ElementTriP2_vals 2 = true := by decide +kernel
theorem ElementTriP2_dual_ok : checkDual ElementTriP2_vals [(0, [(0 : Rat), (0 : Rat)]), (1, [(1 : Rat), (0 : Rat)]), (2, [(0 : Rat), (1 : Rat)]), (3, [(mkRat (1) 2), (0 : Rat)]), (4, [(mkRat (1) 2), (mkRat (1) 2)]), (5, [(0 : Rat), (mkRat (1) 2)])] shapeTol = true := by decide +kernel
theorem ElementTriP2_pou_ok : checkPou 2 ElementTriP2_vals [0, 1, 2, 3, 4, 5] shapeTol = true := by rw [checkPou, C09.close_eq_closeN]; decide +kernel

theorem ElementTriP3_grad_ok : checkGrad 2 ElementTriP3_vals ElementTriP3_grads shapeTol = true := by rw [checkGrad, C09.close_eq_closeN]; decide +kernel
theorem ElementTriP3_deg_ok : checkDeg ElementTriP3_vals 3 = true := by decide +kernel
theorem ElementTriP3_dual_ok : checkDual ElementTriP3_vals [(0, [(0 : Rat), (0 : Rat)]), (1, [(1 : Rat), (0 : Rat)]), (2, [(0 : Rat), (1 : Rat)]), (3, [(mkRat (1) 3), (0 : Rat)]), (4, [(mkRat (2) 3), (0 : Rat)]), (5, [(mkRat (2) 3), (mkRat (1) 3)]), (6, [(mkRat (1) 3), (mkRat (2) 3)]), (7, [(0 : Rat), (mkRat (1) 3)]), (8, [(0 : Rat), (mkRat (2) 3)]), (9, [(mkRat (1) 3), (mkRat (1) 3)])] shapeTol = true := by decide +kernel
theorem ElementTriP3_pou_ok : checkPou 2 ElementTriP3_vals [0, 1, 2, 3, 4, 5, 6, 7, 8, 9] shapeTol = true := by rw [checkPou, C09.close_eq_closeN]; decide +kernel

theorem ElementTriP4_grad_ok : checkGrad 2 ElementTriP4_vals ElementTriP4_grads shapeTol = true := by rw [checkGrad, C09.close_eq_closeN]; decide +kernel
theorem ElementTriP4_deg_ok : checkDeg ElementTriP4_vals 4 = true := by decide +kernel
theorem ElementTriP4_dual_ok : checkDual ElementTriP4_vals [(0, [(0 : Rat), (0 : Rat)]), (1, [(1 : Rat), (0 : Rat)]), (2, [(0 : Rat), (1 : Rat)]), (3, [(mkRat (1) 4), (0 : Rat)]), (4, [(mkRat (1) 2), (0 : Rat)]), (5, [(mkRat (3) 4), (0 : Rat)]), (6, [(mkRat (3) 4), (mkRat (1) 4)]), (7, [(mkRat (1) 2), (mkRat (1) 2)]), (8, [(mkRat (1) 4), (mkRat (3) 4)]), (9, [(0 : Rat), (mkRat (1) 4)]), (10, [(0 : Rat), (mkRat (1) 2)]), (11, [(0 : Rat), (mkRat (3) 4)]), (12, [(mkRat (1) 4), (mkRat (1) 4)]), (13, [(mkRat (1) 2), (mkRat (1) 4)]), (14, [(mkRat (1) 4), (mkRat (1) 2)])] shapeTol = true := by decide +kernel
theorem ElementTriP4_pou_ok : checkPou 2 ElementTriP4_vals [0, 1, 2, 3, 4, 5, 6, 7, 8, 9, 10, 11, 12, 13, 14] shapeTol = true := by rw [checkPou, C09.close_eq_closeN]; decide +kernel

theorem ElementTriP0_grad_ok : checkGrad 2 ElementTriP0_vals ElementTriP0_grads shapeTol = true := by rw [checkGrad, C09.close_eq_closeN]; decide +kernel
theorem ElementTriP0_deg_ok : checkDeg ElementTriP0_vals 0 = true := by decide +kernel
theorem ElementTriP0_dual_ok : checkDual ElementTriP0_vals [(0, [(mkRat (1) 3), (mkRat (1) 3)])] shapeTol = true := by decide +kernel
theorem ElementTriP0_pou_ok : checkPou 2 ElementTriP0_vals [0] shapeTol = true := by rw [checkPou, C09.close_eq_closeN]; decide +kernel

theorem ElementTriCR_grad_ok : checkGrad 2 ElementTriCR_vals ElementTriCR_grads shapeTol = true := by rw [checkGrad, C09.close_eq_closeN]; decide +kernel
theorem ElementTriCR_deg_ok : checkDeg ElementTriCR_vals 1 = true := by decide +kernel
theorem ElementTriCR_dual_ok : checkDual ElementTriCR_vals [(0, [(mkRat (1) 2), (0 : Rat)]), (1, [(mkRat (1) 2), (mkRat (1) 2)]), (2, [(0 : Rat), (mkRat (1) 2)])] shapeTol = true := by decide +kernel
theorem ElementTriCR_pou_ok : checkPou 2 ElementTriCR_vals [0, 1, 2] shapeTol = true := by rw [checkPou, C09.close_eq_closeN]; decide +kernel

theorem ElementTriCCR_grad_ok : checkGrad 2 ElementTriCCR_vals ElementTriCCR_grads shapeTol = true := by rw [checkGrad, C09.close_eq_closeN]; decide +kernel
theorem ElementTriCCR_deg_ok : checkDeg ElementTriCCR_vals 3 = true := by decide +kernel
theorem ElementTriCCR_dual_ok : checkDual ElementTriCCR_vals [(0, [(0 : Rat), (0 : Rat)]), (1, [(1 : Rat), (0 : Rat)]), (2, [(0 : Rat), (1 : Rat)]), (3, [(mkRat (1) 2), (0 : Rat)]), (4, [(mkRat (1) 2), (mkRat (1) 2)]), (5, [(0 : Rat), (mkRat (1) 2)])] shapeTol = true := by decide +kernel
theorem ElementTriCCR_pou_ok : checkPou 2 ElementTriCCR_vals [0, 1, 2, 3, 4, 5] shapeTol = true := by rw [checkPou, C09.close_eq_closeN]; decide +kernel

theorem ElementTriRT0_div_ok : checkDiv 2 ElementTriRT0_vals ElementTriRT0_ders shapeTol = true := by rw [checkDiv, C09.close_eq_closeN]; decide +kernel
theorem ElementTriRT0_moments_ok : checkMoments ElementTriRT0_vals [([(mkRat (1) 2), (0 : Rat)], [(0 : Rat), (-1 : Rat)], (1 : Rat)), ([(mkRat (1) 2), (mkRat (1) 2)], [(1 : Rat), (1 : Rat)], (1 : Rat)), ([(0 : Rat), (mkRat (1) 2)], [(-1 : Rat), (0 : Rat)], (1 : Rat))] (1 : Rat) shapeTol = true := by decide +kernel

theorem ElementTriRT1_div_ok : checkDiv 2 ElementTriRT1_vals ElementTriRT1_ders shapeTol = true := ElementTriRT0_div_ok
theorem ElementTriRT1_moments_ok : checkMoments ElementTriRT1_vals [([(mkRat (1) 2), (0 : Rat)], [(0 : Rat), (-1 : Rat)], (1 : Rat)), ([(mkRat (1) 2), (mkRat (1) 2)], [(1 : Rat), (1 : Rat)], (1 : Rat)), ([(0 : Rat), (mkRat (1) 2)], [(-1 : Rat), (0 : Rat)], (1 : Rat))] (1 : Rat) shapeTol = true := ElementTriRT0_moments_ok

theorem ElementTriRT2_div_ok : checkDiv 2 ElementTriRT2_vals ElementTriRT2_ders shapeTol = true := by rw [checkDiv, C09.close_eq_closeN]; decide +kernel

theorem ElementTriMini_grad_ok : checkGrad 2 ElementTriMini_vals ElementTriMini_grads shapeTol = true := by rw [checkGrad, C09.close_eq_closeN]; decide +kernel
theorem ElementTriMini_deg_ok : checkDeg ElementTriMini_vals 3 = true := by decide +kernel
theorem ElementTriMini_dual_ok : checkDual ElementTriMini_vals [(0, [(0 : Rat), (0 : Rat)]), (1, [(1 : Rat), (0 : Rat)]), (2, [(0 : Rat), (1 : Rat)])] shapeTol = true := by decide +kernel
theorem ElementTriMini_pou_ok : checkPou 2 ElementTriMini_vals [0, 1, 2] shapeTol = true := by rw [checkPou, C09.close_eq_closeN]; decide +kernel

theorem ElementTriP1DG_grad_ok : checkGrad 2 ElementTriP1DG_vals ElementTriP1DG_grads shapeTol = true := ElementTriP1_grad_ok
theorem ElementTriP1DG_deg_ok : checkDeg ElementTriP1DG_vals 1 = true := ElementTriP1_deg_ok
theorem ElementTriP1DG_dual_ok : checkDual ElementTriP1DG_vals [(0, [(0 : Rat), (0 : Rat)]), (1, [(1 : Rat), (0 : Rat)]), (2, [(0 : Rat), (1 : Rat)])] shapeTol = true := ElementTriP1_dual_ok
theorem ElementTriP1DG_pou_ok : checkPou 2 ElementTriP1DG_vals [0, 1, 2] shapeTol = true := ElementTriP1_pou_ok

theorem ElementTriBDM1_div_ok : checkDiv 2 ElementTriBDM1_vals ElementTriBDM1_ders shapeTol = true := by rw [checkDiv, C09.close_eq_closeN]; decide +kernel

theorem ElementTriP1B_grad_ok : checkGrad 2 ElementTriP1B_vals ElementTriP1B_grads shapeTol = true := ElementTriMini_grad_ok
theorem ElementTriP1B_deg_ok : checkDeg ElementTriP1B_vals 3 = true := ElementTriMini_deg_ok
theorem ElementTriP1B_dual_ok : checkDual ElementTriP1B_vals [(0, [(0 : Rat), (0 : Rat)]), (1, [(1 : Rat), (0 : Rat)]), (2, [(0 : Rat), (1 : Rat)])] shapeTol = true := ElementTriMini_dual_ok
theorem ElementTriP1B_pou_ok : checkPou 2 ElementTriP1B_vals [0, 1, 2] shapeTol = true := ElementTriMini_pou_ok

theorem ElementTriP2B_grad_ok : checkGrad 2 ElementTriP2B_vals ElementTriP2B_grads shapeTol = true := ElementTriCCR_grad_ok
theorem ElementTriP2B_deg_ok : checkDeg ElementTriP2B_vals 3 = true := ElementTriCCR_deg_ok
theorem ElementTriP2B_dual_ok : checkDual ElementTriP2B_vals [(0, [(0 : Rat), (0 : Rat)]), (1, [(1 : Rat), (0 : Rat)]), (2, [(0 : Rat), (1 : Rat)]), (3, [(mkRat (1) 2), (0 : Rat)]), (4, [(mkRat (1) 2), (mkRat (1) 2)]), (5, [(0 : Rat), (mkRat (1) 2)])] shapeTol = true := ElementTriCCR_dual_ok
theorem ElementTriP2B_pou_ok : checkPou 2 ElementTriP2B_vals [0, 1, 2, 3, 4, 5] shapeTol = true := ElementTriCCR_pou_ok

theorem ElementTriN1_curl_ok : checkCurl2 ElementTriN1_vals ElementTriN1_ders shapeTol = true := by rw [checkCurl2, C09.close_eq_closeN]; decide +kernel
theorem ElementTriN1_moments_ok : checkMoments ElementTriN1_vals [([(mkRat (1) 2), (0 : Rat)], [(1 : Rat), (0 : Rat)], (1 : Rat)), ([(mkRat (1) 2), (mkRat (1) 2)], [(-1 : Rat), (1 : Rat)], (1 : Rat)), ([(0 : Rat), (mkRat (1) 2)], [(0 : Rat), (1 : Rat)], (1 : Rat))] (-1 : Rat) shapeTol = true := by decide +kernel

theorem ElementTriN2_curl_ok : checkCurl2 ElementTriN2_vals ElementTriN2_ders shapeTol = true := by rw [checkCurl2, C09.close_eq_closeN]; decide +kernel

theorem ElementTriN3_curl_ok : checkCurl2 ElementTriN3_vals ElementTriN3_ders shapeTol = true := by rw [checkCurl2, C09.close_eq_closeN]; decide +kernel



theorem ElementQuad0_grad_ok : checkGrad 2 ElementQuad0_vals ElementQuad0_grads shapeTol = true := ElementTriP0_grad_ok
theorem ElementQuad0_deg_ok : checkDeg ElementQuad0_vals 0 = true := ElementTriP0_deg_ok
theorem ElementQuad0_dual_ok : checkDual ElementQuad0_vals [(0, [(mkRat (1) 2), (mkRat (1) 2)])] shapeTol = true := by decide +kernel
theorem ElementQuad0_pou_ok : checkPou 2 ElementQuad0_vals [0] shapeTol = true := ElementTriP0_pou_ok

theorem ElementQuad1_grad_ok : checkGrad 2 ElementQuad1_vals ElementQuad1_grads shapeTol = true := by rw [checkGrad, C09.close_eq_closeN]; decide +kernel
theorem ElementQuad1_deg_ok : checkDeg ElementQuad1_vals 2 = true := by decide +kernel
theorem ElementQuad1_dual_ok : checkDual ElementQuad1_vals [(0, [(0 : Rat), (0 : Rat)]), (1, [(1 : Rat), (0 : Rat)]), (2, [(1 : Rat), (1 : Rat)]), (3, [(0 : Rat), (1 : Rat)])] shapeTol = true := by decide +kernel
theorem ElementQuad1_pou_ok : checkPou 2 ElementQuad1_vals [0, 1, 2, 3] shapeTol = true := by rw [checkPou, C09.close_eq_closeN]; decide +kernel

theorem ElementQuad2_grad_ok : checkGrad 2 ElementQuad2_vals ElementQuad2_grads shapeTol = true := by rw [checkGrad, C09.close_eq_closeN]; decide +kernel
theorem ElementQuad2_deg_ok : checkDeg ElementQuad2_vals 4 = true := by decide +kernel
theorem ElementQuad2_dual_ok : checkDual ElementQuad2_vals [(0, [(0 : Rat), (0 : Rat)]), (1, [(1 : Rat), (0 : Rat)]), (2, [(1 : Rat), (1 : Rat)]), (3, [(0 : Rat), (1 : Rat)]), (4, [(mkRat (1) 2), (0 : Rat)]), (5, [(1 : Rat), (mkRat (1) 2)]), (6, [(mkRat (1) 2), (1 : Rat)]), (7, [(0 : Rat), (mkRat (1) 2)]), (8, [(mkRat (1) 2), (mkRat (1) 2)])] shapeTol = true := by decide +kernel
theorem ElementQuad2_pou_ok : checkPou 2 ElementQuad2_vals [0, 1, 2, 3, 4, 5, 6, 7, 8] shapeTol = true := by rw [checkPou, C09.close_eq_closeN]; decide +kernel

theorem ElementQuadS2_grad_ok : checkGrad 2 ElementQuadS2_vals ElementQuadS2_grads shapeTol = true := by rw [checkGrad, C09.close_eq_closeN]; decide +kernel
theorem ElementQuadS2_deg_ok : checkDeg ElementQuadS2_vals 3 = true := by decide +kernel
theorem ElementQuadS2_dual_ok : checkDual ElementQuadS2_vals [(0, [(0 : Rat), (0 : Rat)]), (1, [(1 : Rat), (0 : Rat)]), (2, [(1 : Rat), (1 : Rat)]), (3, [(0 : Rat), (1 : Rat)]), (4, [(mkRat (1) 2), (0 : Rat)]), (5, [(1 : Rat), (mkRat (1) 2)]), (6, [(mkRat (1) 2), (1 : Rat)]), (7, [(0 : Rat), (mkRat (1) 2)])] shapeTol = true := by decide +kernel
theorem ElementQuadS2_pou_ok : checkPou 2 ElementQuadS2_vals [0, 1, 2, 3, 4, 5, 6, 7] shapeTol = true := by rw [checkPou, C09.close_eq_closeN]; decide +kernel

theorem ElementQuadRT0_div_ok : checkDiv 2 ElementQuadRT0_vals ElementQuadRT0_ders shapeTol = true := by rw [checkDiv, C09.close_eq_closeN]; decide +kernel
theorem ElementQuadRT0_moments_ok : checkMoments ElementQuadRT0_vals [([(mkRat (1) 2), (0 : Rat)], [(0 : Rat), (-1 : Rat)], (1 : Rat)), ([(1 : Rat), (mkRat (1) 2)], [(1 : Rat), (0 : Rat)], (1 : Rat)), ([(mkRat (1) 2), (1 : Rat)], [(0 : Rat), (1 : Rat)], (1 : Rat)), ([(0 : Rat), (mkRat (1) 2)], [(-1 : Rat), (0 : Rat)], (1 : Rat))] (1 : Rat) shapeTol = true := by decide +kernel

theorem ElementQuadRT1_div_ok : checkDiv 2 ElementQuadRT1_vals ElementQuadRT1_ders shapeTol = true := ElementQuadRT0_div_ok
theorem ElementQuadRT1_moments_ok : checkMoments ElementQuadRT1_vals [([(mkRat (1) 2), (0 : Rat)], [(0 : Rat), (-1 : Rat)], (1 : Rat)), ([(1 : Rat), (mkRat (1) 2)], [(1 : Rat), (0 : Rat)], (1 : Rat)), ([(mkRat (1) 2), (1 : Rat)], [(0 : Rat), (1 : Rat)], (1 : Rat)), ([(0 : Rat), (mkRat (1) 2)], [(-1 : Rat), (0 : Rat)], (1 : Rat))] (1 : Rat) shapeTol = true := ElementQuadRT0_moments_ok

theorem ElementQuad1DG_grad_ok : checkGrad 2 ElementQuad1DG_vals ElementQuad1DG_grads shapeTol = true := ElementQuad1_grad_ok
theorem ElementQuad1DG_deg_ok : checkDeg ElementQuad1DG_vals 2 = true := ElementQuad1_deg_ok
theorem ElementQuad1DG_dual_ok : checkDual ElementQuad1DG_vals [(0, [(0 : Rat), (0 : Rat)]), (1, [(1 : Rat), (0 : Rat)]), (2, [(1 : Rat), (1 : Rat)]), (3, [(0 : Rat), (1 : Rat)])] shapeTol = true := ElementQuad1_dual_ok
theorem ElementQuad1DG_pou_ok : checkPou 2 ElementQuad1DG_vals [0, 1, 2, 3] shapeTol = true := ElementQuad1_pou_ok

theorem ElementQuadN1_curl_ok : checkCurl2 ElementQuadN1_vals ElementQuadN1_ders shapeTol = true := by rw [checkCurl2, C09.close_eq_closeN]; decide +kernel
theorem ElementQuadN1_moments_ok : checkMoments ElementQuadN1_vals [([(mkRat (1) 2), (0 : Rat)], [(1 : Rat), (0 : Rat)], (1 : Rat)), ([(1 : Rat), (mkRat (1) 2)], [(0 : Rat), (1 : Rat)], (1 : Rat)), ([(mkRat (1) 2), (1 : Rat)], [(-1 : Rat), (0 : Rat)], (1 : Rat)), ([(0 : Rat), (mkRat (1) 2)], [(0 : Rat), (1 : Rat)], (1 : Rat))] (-1 : Rat) shapeTol = true := by decide +kernel

theorem ElementTetP0_grad_ok : checkGrad 3 ElementTetP0_vals ElementTetP0_grads shapeTol = true := by rw [checkGrad, C09.close_eq_closeN]; decide +kernel
theorem ElementTetP0_deg_ok : checkDeg ElementTetP0_vals 0 = true := by decide +kernel
theorem ElementTetP0_dual_ok : checkDual ElementTetP0_vals [(0, [(mkRat (1) 4), (mkRat (1) 4), (mkRat (1) 4)])] shapeTol = true := by decide +kernel
theorem ElementTetP0_pou_ok : checkPou 3 ElementTetP0_vals [0] shapeTol = true := by rw [checkPou, C09.close_eq_closeN]; decide +kernel

theorem ElementTetP1_grad_ok : checkGrad 3 ElementTetP1_vals ElementTetP1_grads shapeTol = true := by rw [checkGrad, C09.close_eq_closeN]; decide +kernel
theorem ElementTetP1_deg_ok : checkDeg ElementTetP1_vals 1 = true := by decide +kernel
theorem ElementTetP1_dual_ok : checkDual ElementTetP1_vals [(0, [(0 : Rat), (0 : Rat), (0 : Rat)]), (1, [(1 : Rat), (0 : Rat), (0 : Rat)]), (2, [(0 : Rat), (1 : Rat), (0 : Rat)]), (3, [(0 : Rat), (0 : Rat), (1 : Rat)])] shapeTol = true := by decide +kernel
theorem ElementTetP1_pou_ok : checkPou 3 ElementTetP1_vals [0, 1, 2, 3] shapeTol = true := by rw [checkPou, C09.close_eq_closeN]; decide +kernel

theorem ElementTetP2_grad_ok : checkGrad 3 ElementTetP2_vals ElementTetP2_grads shapeTol = true := by rw [checkGrad, C09.close_eq_closeN]; decide +kernel
theorem ElementTetP2_deg_ok : checkDeg ElementTetP2_vals 2 = true := by decide +kernel
theorem ElementTetP2_dual_ok : checkDual ElementTetP2_vals [(0, [(0 : Rat), (0 : Rat), (0 : Rat)]), (1, [(1 : Rat), (0 : Rat), (0 : Rat)]), (2, [(0 : Rat), (1 : Rat), (0 : Rat)]), (3, [(0 : Rat), (0 : Rat), (1 : Rat)]), (4, [(mkRat (1) 2), (0 : Rat), (0 : Rat)]), (5, [(mkRat (1) 2), (mkRat (1) 2), (0 : Rat)]), (6, [(0 : Rat), (mkRat (1) 2), (0 : Rat)]), (7, [(0 : Rat), (0 : Rat), (mkRat (1) 2)]), (8, [(mkRat (1) 2), (0 : Rat), (mkRat (1) 2)]), (9, [(0 : Rat), (mkRat (1) 2), (mkRat (1) 2)])] shapeTol = true := by decide +kernel
theorem ElementTetP2_pou_ok : checkPou 3 ElementTetP2_vals [0, 1, 2, 3, 4, 5, 6, 7, 8, 9] shapeTol = true := by rw [checkPou, C09.close_eq_closeN]; decide +kernel

theorem ElementTetRT0_div_ok : checkDiv 3 ElementTetRT0_vals ElementTetRT0_ders shapeTol = true := by rw [checkDiv, C09.close_eq_closeN]; decide +kernel
theorem ElementTetRT0_moments_ok : checkMoments ElementTetRT0_vals [([(mkRat (1) 3), (mkRat (1) 3), (0 : Rat)], [(0 : Rat), (0 : Rat), (-1 : Rat)], (mkRat (1) 2)), ([(mkRat (1) 3), (0 : Rat), (mkRat (1) 3)], [(0 : Rat), (-1 : Rat), (0 : Rat)], (mkRat (1) 2)), ([(0 : Rat), (mkRat (1) 3), (mkRat (1) 3)], [(-1 : Rat), (0 : Rat), (0 : Rat)], (mkRat (1) 2)), ([(mkRat (1) 3), (mkRat (1) 3), (mkRat (1) 3)], [(1 : Rat), (1 : Rat), (1 : Rat)], (mkRat (1) 2))] (mkRat (1) 2) shapeTol = true := by decide +kernel

theorem ElementTetRT1_div_ok : checkDiv 3 ElementTetRT1_vals ElementTetRT1_ders shapeTol = true := ElementTetRT0_div_ok
theorem ElementTetRT1_moments_ok : checkMoments ElementTetRT1_vals [([(mkRat (1) 3), (mkRat (1) 3), (0 : Rat)], [(0 : Rat), (0 : Rat), (-1 : Rat)], (mkRat (1) 2)), ([(mkRat (1) 3), (0 : Rat), (mkRat (1) 3)], [(0 : Rat), (-1 : Rat), (0 : Rat)], (mkRat (1) 2)), ([(0 : Rat), (mkRat (1) 3), (mkRat (1) 3)], [(-1 : Rat), (0 : Rat), (0 : Rat)], (mkRat (1) 2)), ([(mkRat (1) 3), (mkRat (1) 3), (mkRat (1) 3)], [(1 : Rat), (1 : Rat), (1 : Rat)], (mkRat (1) 2))] (mkRat (1) 2) shapeTol = true := ElementTetRT0_moments_ok

theorem ElementTetN0_curl_ok : checkCurl3 ElementTetN0_vals ElementTetN0_ders shapeTol = true := by rw [checkCurl3, C09.close_eq_closeN]; decide +kernel
theorem ElementTetN0_moments_ok : checkMoments ElementTetN0_vals [([(mkRat (1) 2), (0 : Rat), (0 : Rat)], [(1 : Rat), (0 : Rat), (0 : Rat)], (1 : Rat)), ([(mkRat (1) 2), (mkRat (1) 2), (0 : Rat)], [(-1 : Rat), (1 : Rat), (0 : Rat)], (1 : Rat)), ([(0 : Rat), (mkRat (1) 2), (0 : Rat)], [(0 : Rat), (1 : Rat), (0 : Rat)], (1 : Rat)), ([(0 : Rat), (0 : Rat), (mkRat (1) 2)], [(0 : Rat), (0 : Rat), (1 : Rat)], (1 : Rat)), ([(mkRat (1) 2), (0 : Rat), (mkRat (1) 2)], [(-1 : Rat), (0 : Rat), (1 : Rat)], (1 : Rat)), ([(0 : Rat), (mkRat (1) 2), (mkRat (1) 2)], [(0 : Rat), (-1 : Rat), (1 : Rat)], (1 : Rat))] (1 : Rat) shapeTol = true := by decide +kernel

theorem ElementTetN1_curl_ok : checkCurl3 ElementTetN1_vals ElementTetN1_ders shapeTol = true := ElementTetN0_curl_ok
theorem ElementTetN1_moments_ok : checkMoments ElementTetN1_vals [([(mkRat (1) 2), (0 : Rat), (0 : Rat)], [(1 : Rat), (0 : Rat), (0 : Rat)], (1 : Rat)), ([(mkRat (1) 2), (mkRat (1) 2), (0 : Rat)], [(-1 : Rat), (1 : Rat), (0 : Rat)], (1 : Rat)), ([(0 : Rat), (mkRat (1) 2), (0 : Rat)], [(0 : Rat), (1 : Rat), (0 : Rat)], (1 : Rat)), ([(0 : Rat), (0 : Rat), (mkRat (1) 2)], [(0 : Rat), (0 : Rat), (1 : Rat)], (1 : Rat)), ([(mkRat (1) 2), (0 : Rat), (mkRat (1) 2)], [(-1 : Rat), (0 : Rat), (1 : Rat)], (1 : Rat)), ([(0 : Rat), (mkRat (1) 2), (mkRat (1) 2)], [(0 : Rat), (-1 : Rat), (1 : Rat)], (1 : Rat))] (1 : Rat) shapeTol = true := ElementTetN0_moments_ok

theorem ElementTetMini_grad_ok : checkGrad 3 ElementTetMini_vals ElementTetMini_grads shapeTol = true := by rw [checkGrad, C09.close_eq_closeN]; decide +kernel
theorem ElementTetMini_deg_ok : checkDeg ElementTetMini_vals 4 = true := by decide +kernel
theorem ElementTetMini_dual_ok : checkDual ElementTetMini_vals [(0, [(0 : Rat), (0 : Rat), (0 : Rat)]), (1, [(1 : Rat), (0 : Rat), (0 : Rat)]), (2, [(0 : Rat), (1 : Rat), (0 : Rat)]), (3, [(0 : Rat), (0 : Rat), (1 : Rat)])] shapeTol = true := by decide +kernel
theorem ElementTetMini_pou_ok : checkPou 3 ElementTetMini_vals [0, 1, 2, 3] shapeTol = true := by rw [checkPou, C09.close_eq_closeN]; decide +kernel

theorem ElementTetCR_grad_ok : checkGrad 3 ElementTetCR_vals ElementTetCR_grads shapeTol = true := by rw [checkGrad, C09.close_eq_closeN]; decide +kernel
theorem ElementTetCR_deg_ok : checkDeg ElementTetCR_vals 1 = true := by decide +kernel
theorem ElementTetCR_dual_ok : checkDual ElementTetCR_vals [(0, [(mkRat (1) 3), (mkRat (1) 3), (0 : Rat)]), (1, [(mkRat (1) 3), (0 : Rat), (mkRat (1) 3)]), (2, [(0 : Rat), (mkRat (1) 3), (mkRat (1) 3)]), (3, [(mkRat (1) 3), (mkRat (1) 3), (mkRat (1) 3)])] shapeTol = true := by decide +kernel
theorem ElementTetCR_pou_ok : checkPou 3 ElementTetCR_vals [0, 1, 2, 3] shapeTol = true := by rw [checkPou, C09.close_eq_closeN]; decide +kernel

theorem ElementTetCCR_grad_ok : checkGrad 3 ElementTetCCR_vals ElementTetCCR_grads shapeTol = true := by rw [checkGrad, C09.close_eq_closeN]; decide +kernel
theorem ElementTetCCR_deg_ok : checkDeg ElementTetCCR_vals 4 = true := by decide +kernel
theorem ElementTetCCR_dual_ok : checkDual ElementTetCCR_vals [(0, [(0 : Rat), (0 : Rat), (0 : Rat)]), (1, [(1 : Rat), (0 : Rat), (0 : Rat)]), (2, [(0 : Rat), (1 : Rat), (0 : Rat)]), (3, [(0 : Rat), (0 : Rat), (1 : Rat)]), (4, [(mkRat (1) 2), (0 : Rat), (0 : Rat)]), (5, [(mkRat (1) 2), (mkRat (1) 2), (0 : Rat)]), (6, [(0 : Rat), (mkRat (1) 2), (0 : Rat)]), (7, [(0 : Rat), (0 : Rat), (mkRat (1) 2)]), (8, [(mkRat (1) 2), (0 : Rat), (mkRat (1) 2)]), (9, [(0 : Rat), (mkRat (1) 2), (mkRat (1) 2)]), (10, [(mkRat (1) 3), (mkRat (1) 3), (0 : Rat)]), (11, [(mkRat (1) 3), (0 : Rat), (mkRat (1) 3)]), (12, [(0 : Rat), (mkRat (1) 3), (mkRat (1) 3)]), (13, [(mkRat (1) 3), (mkRat (1) 3), (mkRat (1) 3)]), (14, [(mkRat (1) 4), (mkRat (1) 4), (mkRat (1) 4)])] shapeTol = true := by decide +kernel
theorem ElementTetCCR_pou_ok : checkPou 3 ElementTetCCR_vals [0, 1, 2, 3, 4, 5, 6, 7, 8, 9, 10, 11, 12, 13, 14] shapeTol = true := by rw [checkPou, C09.close_eq_closeN]; decide +kernel

theorem ElementHex0_grad_ok : checkGrad 3 ElementHex0_vals ElementHex0_grads shapeTol = true := ElementTetP0_grad_ok
theorem ElementHex0_deg_ok : checkDeg ElementHex0_vals 0 = true := ElementTetP0_deg_ok
theorem ElementHex0_dual_ok : checkDual ElementHex0_vals [(0, [(mkRat (1) 2), (mkRat (1) 2), (mkRat (1) 2)])] shapeTol = true := by decide +kernel
theorem ElementHex0_pou_ok : checkPou 3 ElementHex0_vals [0] shapeTol = true := ElementTetP0_pou_ok

theorem ElementHex1_grad_ok : checkGrad 3 ElementHex1_vals ElementHex1_grads shapeTol = true := by rw [checkGrad, C09.close_eq_closeN]; decide +kernel
theorem ElementHex1_deg_ok : checkDeg ElementHex1_vals 3 = true := by decide +kernel
theorem ElementHex1_dual_ok : checkDual ElementHex1_vals [(0, [(1 : Rat), (1 : Rat), (1 : Rat)]), (1, [(1 : Rat), (1 : Rat), (0 : Rat)]), (2, [(1 : Rat), (0 : Rat), (1 : Rat)]), (3, [(0 : Rat), (1 : Rat), (1 : Rat)]), (4, [(1 : Rat), (0 : Rat), (0 : Rat)]), (5, [(0 : Rat), (1 : Rat), (0 : Rat)]), (6, [(0 : Rat), (0 : Rat), (1 : Rat)]), (7, [(0 : Rat), (0 : Rat), (0 : Rat)])] shapeTol = true := by decide +kernel
theorem ElementHex1_pou_ok : checkPou 3 ElementHex1_vals [0, 1, 2, 3, 4, 5, 6, 7] shapeTol = true := by rw [checkPou, C09.close_eq_closeN]; decide +kernel

theorem ElementHex2_grad_ok : checkGrad 3 ElementHex2_vals ElementHex2_grads shapeTol = true := by rw [checkGrad, C09.close_eq_closeN]; decide +kernel
theorem ElementHex2_deg_ok : checkDeg ElementHex2_vals 6 = true := by decide +kernel
theorem ElementHex2_dual_ok : checkDual ElementHex2_vals [(0, [(1 : Rat), (1 : Rat), (1 : Rat)]), (1, [(1 : Rat), (1 : Rat), (0 : Rat)]), (2, [(1 : Rat), (0 : Rat), (1 : Rat)]), (3, [(0 : Rat), (1 : Rat), (1 : Rat)]), (4, [(1 : Rat), (0 : Rat), (0 : Rat)]), (5, [(0 : Rat), (1 : Rat), (0 : Rat)]), (6, [(0 : Rat), (0 : Rat), (1 : Rat)]), (7, [(0 : Rat), (0 : Rat), (0 : Rat)]), (8, [(1 : Rat), (1 : Rat), (mkRat (1) 2)]), (9, [(1 : Rat), (mkRat (1) 2), (1 : Rat)]), (10, [(mkRat (1) 2), (1 : Rat), (1 : Rat)]), (11, [(1 : Rat), (mkRat (1) 2), (0 : Rat)]), (12, [(mkRat (1) 2), (1 : Rat), (0 : Rat)]), (13, [(1 : Rat), (0 : Rat), (mkRat (1) 2)]), (14, [(mkRat (1) 2), (0 : Rat), (1 : Rat)]), (15, [(0 : Rat), (1 : Rat), (mkRat (1) 2)]), (16, [(0 : Rat), (mkRat (1) 2), (1 : Rat)]), (17, [(mkRat (1) 2), (0 : Rat), (0 : Rat)]), (18, [(0 : Rat), (mkRat (1) 2), (0 : Rat)]), (19, [(0 : Rat), (0 : Rat), (mkRat (1) 2)]), (20, [(1 : Rat), (mkRat (1) 2), (mkRat (1) 2)]), (21, [(mkRat (1) 2), (mkRat (1) 2), (1 : Rat)]), (22, [(mkRat (1) 2), (1 : Rat), (mkRat (1) 2)]), (23, [(mkRat (1) 2), (0 : Rat), (mkRat (1) 2)]), (24, [(mkRat (1) 2), (mkRat (1) 2), (0 : Rat)]), (25, [(0 : Rat), (mkRat (1) 2), (mkRat (1) 2)]), (26, [(mkRat (1) 2), (mkRat (1) 2), (mkRat (1) 2)])] shapeTol = true := by decide +kernel
theorem ElementHex2_pou_ok : checkPou 3 ElementHex2_vals [0, 1, 2, 3, 4, 5, 6, 7, 8, 9, 10, 11, 12, 13, 14, 15, 16, 17, 18, 19, 20, 21, 22, 23, 24, 25, 26] shapeTol = true := by rw [checkPou, C09.close_eq_closeN]; decide +kernel

theorem ElementHexS2_grad_ok : checkGrad 3 ElementHexS2_vals ElementHexS2_grads shapeTol = true := by rw [checkGrad, C09.close_eq_closeN]; decide +kernel
theorem ElementHexS2_deg_ok : checkDeg ElementHexS2_vals 4 = true := by decide +kernel
theorem ElementHexS2_dual_ok : checkDual ElementHexS2_vals [(0, [(1 : Rat), (1 : Rat), (1 : Rat)]), (1, [(1 : Rat), (1 : Rat), (0 : Rat)]), (2, [(1 : Rat), (0 : Rat), (1 : Rat)]), (3, [(0 : Rat), (1 : Rat), (1 : Rat)]), (4, [(1 : Rat), (0 : Rat), (0 : Rat)]), (5, [(0 : Rat), (1 : Rat), (0 : Rat)]), (6, [(0 : Rat), (0 : Rat), (1 : Rat)]), (7, [(0 : Rat), (0 : Rat), (0 : Rat)]), (8, [(1 : Rat), (1 : Rat), (mkRat (1) 2)]), (9, [(1 : Rat), (mkRat (1) 2), (1 : Rat)]), (10, [(mkRat (1) 2), (1 : Rat), (1 : Rat)]), (11, [(1 : Rat), (mkRat (1) 2), (0 : Rat)]), (12, [(mkRat (1) 2), (1 : Rat), (0 : Rat)]), (13, [(1 : Rat), (0 : Rat), (mkRat (1) 2)]), (14, [(mkRat (1) 2), (0 : Rat), (1 : Rat)]), (15, [(0 : Rat), (1 : Rat), (mkRat (1) 2)]), (16, [(0 : Rat), (mkRat (1) 2), (1 : Rat)]), (17, [(mkRat (1) 2), (0 : Rat), (0 : Rat)]), (18, [(0 : Rat), (mkRat (1) 2), (0 : Rat)]), (19, [(0 : Rat), (0 : Rat), (mkRat (1) 2)])] shapeTol = true := by decide +kernel
theorem ElementHexS2_pou_ok : checkPou 3 ElementHexS2_vals [0, 1, 2, 3, 4, 5, 6, 7, 8, 9, 10, 11, 12, 13, 14, 15, 16, 17, 18, 19] shapeTol = true := by rw [checkPou, C09.close_eq_closeN]; decide +kernel

theorem ElementHex1DG_grad_ok : checkGrad 3 ElementHex1DG_vals ElementHex1DG_grads shapeTol = true := ElementHex1_grad_ok
theorem ElementHex1DG_deg_ok : checkDeg ElementHex1DG_vals 3 = true := ElementHex1_deg_ok
theorem ElementHex1DG_dual_ok : checkDual ElementHex1DG_vals [(0, [(1 : Rat), (1 : Rat), (1 : Rat)]), (1, [(1 : Rat), (1 : Rat), (0 : Rat)]), (2, [(1 : Rat), (0 : Rat), (1 : Rat)]), (3, [(0 : Rat), (1 : Rat), (1 : Rat)]), (4, [(1 : Rat), (0 : Rat), (0 : Rat)]), (5, [(0 : Rat), (1 : Rat), (0 : Rat)]), (6, [(0 : Rat), (0 : Rat), (1 : Rat)]), (7, [(0 : Rat), (0 : Rat), (0 : Rat)])] shapeTol = true := ElementHex1_dual_ok
theorem ElementHex1DG_pou_ok : checkPou 3 ElementHex1DG_vals [0, 1, 2, 3, 4, 5, 6, 7] shapeTol = true := ElementHex1_pou_ok

theorem ElementHexRT1_div_ok : checkDiv 3 ElementHexRT1_vals ElementHexRT1_ders shapeTol = true := by rw [checkDiv, C09.close_eq_closeN]; decide +kernel
theorem ElementHexRT1_moments_ok : checkMoments ElementHexRT1_vals [([(1 : Rat), (mkRat (1) 2), (mkRat (1) 2)], [(1 : Rat), (0 : Rat), (0 : Rat)], (1 : Rat)), ([(mkRat (1) 2), (mkRat (1) 2), (1 : Rat)], [(0 : Rat), (0 : Rat), (1 : Rat)], (1 : Rat)), ([(mkRat (1) 2), (1 : Rat), (mkRat (1) 2)], [(0 : Rat), (1 : Rat), (0 : Rat)], (1 : Rat)), ([(mkRat (1) 2), (0 : Rat), (mkRat (1) 2)], [(0 : Rat), (-1 : Rat), (0 : Rat)], (1 : Rat)), ([(mkRat (1) 2), (mkRat (1) 2), (0 : Rat)], [(0 : Rat), (0 : Rat), (-1 : Rat)], (1 : Rat)), ([(0 : Rat), (mkRat (1) 2), (mkRat (1) 2)], [(-1 : Rat), (0 : Rat), (0 : Rat)], (1 : Rat))] (1 : Rat) shapeTol = true := by decide +kernel

theorem ElementWedge1_grad_ok : checkGrad 3 ElementWedge1_vals ElementWedge1_grads shapeTol = true := by rw [checkGrad, C09.close_eq_closeN]; decide +kernel
theorem ElementWedge1_deg_ok : checkDeg ElementWedge1_vals 2 = true := by decide +kernel
theorem ElementWedge1_dual_ok : checkDual ElementWedge1_vals [(0, [(0 : Rat), (0 : Rat), (0 : Rat)]), (1, [(1 : Rat), (0 : Rat), (0 : Rat)]), (2, [(0 : Rat), (1 : Rat), (0 : Rat)]), (3, [(0 : Rat), (0 : Rat), (1 : Rat)]), (4, [(1 : Rat), (0 : Rat), (1 : Rat)]), (5, [(0 : Rat), (1 : Rat), (1 : Rat)])] shapeTol = true := by decide +kernel
theorem ElementWedge1_pou_ok : checkPou 3 ElementWedge1_vals [0, 1, 2, 3, 4, 5] shapeTol = true := by rw [checkPou, C09.close_eq_closeN]; decide +kernel

theorem h1Elements_ok : ∀ E ∈ h1Elements, checkGrad E.1 E.2.1 E.2.2 shapeTol = true := by
  simp only [h1Elements, List.forall_mem_cons, List.not_mem_nil, false_imp_iff, implies_true, and_true]
  exact ⟨ElementLineP0_grad_ok, ElementLineP1_grad_ok, ElementLineP1DG_grad_ok, ElementLineP2_grad_ok, ElementLineMini_grad_ok, ElementTriP1_grad_ok, ElementTriP2_grad_ok, ElementTriP3_grad_ok, ElementTriP4_grad_ok, ElementTriP0_grad_ok, ElementTriCR_grad_ok, ElementTriCCR_grad_ok, ElementTriMini_grad_ok, ElementTriP1DG_grad_ok, ElementTriP1B_grad_ok, ElementTriP2B_grad_ok, ElementQuad0_grad_ok, ElementQuad1_grad_ok, ElementQuad2_grad_ok, ElementQuadS2_grad_ok, ElementQuad1DG_grad_ok, ElementTetP0_grad_ok, ElementTetP1_grad_ok, ElementTetP2_grad_ok, ElementTetMini_grad_ok, ElementTetCR_grad_ok, ElementTetCCR_grad_ok, ElementHex0_grad_ok, ElementHex1_grad_ok, ElementHex2_grad_ok, ElementHexS2_grad_ok, ElementHex1DG_grad_ok, ElementWedge1_grad_ok⟩

theorem hdivElements_ok : ∀ E ∈ hdivElements, checkDiv E.1 E.2.1 E.2.2 shapeTol = true := by
  simp only [hdivElements, List.forall_mem_cons, List.not_mem_nil, false_imp_iff, implies_true, and_true]
  exact ⟨ElementTriRT0_div_ok, ElementTriRT1_div_ok, ElementTriRT2_div_ok, ElementTriBDM1_div_ok, ElementQuadRT0_div_ok, ElementQuadRT1_div_ok, ElementTetRT0_div_ok, ElementTetRT1_div_ok, ElementHexRT1_div_ok⟩

theorem hcurl2Elements_ok : ∀ E ∈ hcurl2Elements, checkCurl2 E.1 E.2 shapeTol = true := by
  simp only [hcurl2Elements, List.forall_mem_cons, List.not_mem_nil, false_imp_iff, implies_true, and_true]
  exact ⟨ElementTriN1_curl_ok, ElementTriN2_curl_ok, ElementTriN3_curl_ok, ElementQuadN1_curl_ok⟩

theorem hcurl3Elements_ok : ∀ E ∈ hcurl3Elements, checkCurl3 E.1 E.2 shapeTol = true := by
  simp only [hcurl3Elements, List.forall_mem_cons, List.not_mem_nil, false_imp_iff, implies_true, and_true]
  exact ⟨ElementTetN0_curl_ok, ElementTetN1_curl_ok⟩

theorem degElements_ok : ∀ E ∈ degElements, checkDeg E.1 E.2 = true := by
  simp only [degElements, List.forall_mem_cons, List.not_mem_nil, false_imp_iff, implies_true, and_true]
  exact ⟨ElementLineP0_deg_ok, ElementLineP1_deg_ok, ElementLineP1DG_deg_ok, ElementLineP2_deg_ok, ElementLineMini_deg_ok, ElementTriP1_deg_ok, ElementTriP2_deg_ok, ElementTriP3_deg_ok, ElementTriP4_deg_ok, ElementTriP0_deg_ok, ElementTriCR_deg_ok, ElementTriCCR_deg_ok, ElementTriMini_deg_ok, ElementTriP1DG_deg_ok, ElementTriP1B_deg_ok, ElementTriP2B_deg_ok, ElementQuad0_deg_ok, ElementQuad1_deg_ok, ElementQuad2_deg_ok, ElementQuadS2_deg_ok, ElementQuad1DG_deg_ok, ElementTetP0_deg_ok, ElementTetP1_deg_ok, ElementTetP2_deg_ok, ElementTetMini_deg_ok, ElementTetCR_deg_ok, ElementTetCCR_deg_ok, ElementHex0_deg_ok, ElementHex1_deg_ok, ElementHex2_deg_ok, ElementHexS2_deg_ok, ElementHex1DG_deg_ok, ElementWedge1_deg_ok⟩

end Skv.Gen.Shapes
