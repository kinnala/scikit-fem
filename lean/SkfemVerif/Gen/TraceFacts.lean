import SkfemVerif.Gen.Shapes
import SkfemVerif.Lemmas.PolyCheck
/-
GENERATED by harness/skv/gens/shapes.py: kernel-checked TRACE TABLES of the conforming H1 elements
(restriction of every traced shape function to every reference facet; `checkTraceTable` is evaluated
in the equal form `C03b.checkTraceTableByFacet`) -- do not edit.
-/
namespace Skv.Gen.Shapes
open Skv

theorem ElementTriP1_traces_ok : checkTraceTable ElementTriP1_vals ElementTriP1_fmaps ElementTriP1_keys shapeTol = true := by rw [C03b.checkTraceTable_eq_byFacet]; decide +kernel
theorem ElementTriP1_keys_ok : checkKeys ElementTriP1_keys = true := by decide +kernel
theorem ElementTriP2_traces_ok : checkTraceTable ElementTriP2_vals ElementTriP2_fmaps ElementTriP2_keys shapeTol = true := by rw [C03b.checkTraceTable_eq_byFacet]; decide +kernel
theorem ElementTriP2_keys_ok : checkKeys ElementTriP2_keys = true := by decide +kernel
theorem ElementTriP3_traces_ok : checkTraceTable ElementTriP3_vals ElementTriP3_fmaps ElementTriP3_keys shapeTol = true := by rw [C03b.checkTraceTable_eq_byFacet]; decide +kernel
theorem ElementTriP3_keys_ok : checkKeys ElementTriP3_keys = true := by decide +kernel
theorem ElementTriP4_traces_ok : checkTraceTable ElementTriP4_vals ElementTriP4_fmaps ElementTriP4_keys shapeTol = true := by rw [C03b.checkTraceTable_eq_byFacet]; decide +kernel
theorem ElementTriP4_keys_ok : checkKeys ElementTriP4_keys = true := by decide +kernel
theorem ElementTriCCR_traces_ok : checkTraceTable ElementTriCCR_vals ElementTriCCR_fmaps ElementTriCCR_keys shapeTol = true := by rw [C03b.checkTraceTable_eq_byFacet]; decide +kernel
theorem ElementTriCCR_keys_ok : checkKeys ElementTriCCR_keys = true := by decide +kernel
theorem ElementTriMini_traces_ok : checkTraceTable ElementTriMini_vals ElementTriMini_fmaps ElementTriMini_keys shapeTol = true := by rw [C03b.checkTraceTable_eq_byFacet]; decide +kernel
theorem ElementTriMini_keys_ok : checkKeys ElementTriMini_keys = true := by decide +kernel
theorem ElementTriP1B_traces_ok : checkTraceTable ElementTriP1B_vals ElementTriP1B_fmaps ElementTriP1B_keys shapeTol = true := ElementTriMini_traces_ok
theorem ElementTriP1B_keys_ok : checkKeys ElementTriP1B_keys = true := ElementTriMini_keys_ok
theorem ElementTriP2B_traces_ok : checkTraceTable ElementTriP2B_vals ElementTriP2B_fmaps ElementTriP2B_keys shapeTol = true := ElementTriCCR_traces_ok
theorem ElementTriP2B_keys_ok : checkKeys ElementTriP2B_keys = true := ElementTriCCR_keys_ok
theorem ElementQuad1_traces_ok : checkTraceTable ElementQuad1_vals ElementQuad1_fmaps ElementQuad1_keys shapeTol = true := by rw [C03b.checkTraceTable_eq_byFacet]; decide +kernel
theorem ElementQuad1_keys_ok : checkKeys ElementQuad1_keys = true := by decide +kernel
theorem ElementQuad1_reversal_ok : checkTraceReversal ElementQuad1_vals ElementQuad1_fmaps ElementQuad1_keys [(0, 1)] shapeTol = true := by decide +kernel
theorem ElementQuad2_traces_ok : checkTraceTable ElementQuad2_vals ElementQuad2_fmaps ElementQuad2_keys shapeTol = true := by rw [C03b.checkTraceTable_eq_byFacet]; decide +kernel
theorem ElementQuad2_keys_ok : checkKeys ElementQuad2_keys = true := by decide +kernel
theorem ElementQuad2_reversal_ok : checkTraceReversal ElementQuad2_vals ElementQuad2_fmaps ElementQuad2_keys [(0, 1), (2, 2)] shapeTol = true := by decide +kernel
theorem ElementQuadS2_traces_ok : checkTraceTable ElementQuadS2_vals ElementQuadS2_fmaps ElementQuadS2_keys shapeTol = true := by rw [C03b.checkTraceTable_eq_byFacet]; decide +kernel
theorem ElementQuadS2_keys_ok : checkKeys ElementQuadS2_keys = true := by decide +kernel
theorem ElementQuadS2_reversal_ok : checkTraceReversal ElementQuadS2_vals ElementQuadS2_fmaps ElementQuadS2_keys [(0, 1), (2, 2)] shapeTol = true := by decide +kernel
theorem ElementTetP1_traces_ok : checkTraceTable ElementTetP1_vals ElementTetP1_fmaps ElementTetP1_keys shapeTol = true := by rw [C03b.checkTraceTable_eq_byFacet]; decide +kernel
theorem ElementTetP1_keys_ok : checkKeys ElementTetP1_keys = true := by decide +kernel
theorem ElementTetP2_traces_ok : checkTraceTable ElementTetP2_vals ElementTetP2_fmaps ElementTetP2_keys shapeTol = true := by rw [C03b.checkTraceTable_eq_byFacet]; decide +kernel
theorem ElementTetP2_keys_ok : checkKeys ElementTetP2_keys = true := by decide +kernel
theorem ElementTetMini_traces_ok : checkTraceTable ElementTetMini_vals ElementTetMini_fmaps ElementTetMini_keys shapeTol = true := by rw [C03b.checkTraceTable_eq_byFacet]; decide +kernel
theorem ElementTetMini_keys_ok : checkKeys ElementTetMini_keys = true := by decide +kernel
theorem traceElements_ok : ∀ E ∈ traceElements, checkTraceTable E.1 E.2.1 E.2.2 shapeTol = true := by
  simp only [traceElements, List.forall_mem_cons, List.not_mem_nil, false_imp_iff, implies_true, and_true]
  exact ⟨ElementTriP1_traces_ok, ElementTriP2_traces_ok, ElementTriP3_traces_ok, ElementTriP4_traces_ok, ElementTriCCR_traces_ok, ElementTriMini_traces_ok, ElementTriP1B_traces_ok, ElementTriP2B_traces_ok, ElementQuad1_traces_ok, ElementQuad2_traces_ok, ElementQuadS2_traces_ok, ElementTetP1_traces_ok, ElementTetP2_traces_ok, ElementTetMini_traces_ok⟩

theorem traceElements_keys_ok : ∀ E ∈ traceElements, checkKeys E.2.2 = true := by
  simp only [traceElements, List.forall_mem_cons, List.not_mem_nil, false_imp_iff, implies_true, and_true]
  exact ⟨ElementTriP1_keys_ok, ElementTriP2_keys_ok, ElementTriP3_keys_ok, ElementTriP4_keys_ok, ElementTriCCR_keys_ok, ElementTriMini_keys_ok, ElementTriP1B_keys_ok, ElementTriP2B_keys_ok, ElementQuad1_keys_ok, ElementQuad2_keys_ok, ElementQuadS2_keys_ok, ElementTetP1_keys_ok, ElementTetP2_keys_ok, ElementTetMini_keys_ok⟩

theorem reversalElements_ok : ∀ E ∈ reversalElements, checkTraceReversal E.1 E.2.1 E.2.2.1 E.2.2.2 shapeTol = true := by
  simp only [reversalElements, List.forall_mem_cons, List.not_mem_nil, false_imp_iff, implies_true, and_true]
  exact ⟨ElementQuad1_reversal_ok, ElementQuad2_reversal_ok, ElementQuadS2_reversal_ok⟩

end Skv.Gen.Shapes
