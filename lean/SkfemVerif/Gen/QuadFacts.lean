import SkfemVerif.Gen.QuadTables
/-
GENERATED by harness/skv/gens/quad.py -- do not edit.  Kernel-checked facts about the tables:
every monomial up to the advertised degree within 2^-quadTol, nodes in the closed cell, weights
sum to the measure (`decide +kernel`, no axioms).
-/
namespace Skv.Gen
open Skv
theorem tri_2_ok : (okAllSimplex tri_2 2 2 quadTol && insideSimplex tri_2 && weightsOk tri_2 (1, 2) quadTol) = true := by decide +kernel

theorem tri_3_ok : (okAllSimplex tri_3 2 3 quadTol && insideSimplex tri_3 && weightsOk tri_3 (1, 2) quadTol) = true := by decide +kernel

theorem tri_4_ok : (okAllSimplex tri_4 2 4 quadTol && insideSimplex tri_4 && weightsOk tri_4 (1, 2) quadTol) = true := by decide +kernel

theorem tri_5_ok : (okAllSimplex tri_5 2 5 quadTol && insideSimplex tri_5 && weightsOk tri_5 (1, 2) quadTol) = true := by decide +kernel

theorem tri_6_ok : (okAllSimplex tri_6 2 6 quadTol && insideSimplex tri_6 && weightsOk tri_6 (1, 2) quadTol) = true := by decide +kernel

theorem tri_7_ok : (okAllSimplex tri_7 2 7 quadTol && insideSimplex tri_7 && weightsOk tri_7 (1, 2) quadTol) = true := by decide +kernel

theorem tri_8_ok : (okAllSimplex tri_8 2 8 quadTol && insideSimplex tri_8 && weightsOk tri_8 (1, 2) quadTol) = true := by decide +kernel

theorem tri_9_ok : (okAllSimplex tri_9 2 9 quadTol && insideSimplex tri_9 && weightsOk tri_9 (1, 2) quadTol) = true := by decide +kernel

theorem tri_10_ok : (okAllSimplex tri_10 2 10 quadTol && insideSimplex tri_10 && weightsOk tri_10 (1, 2) quadTol) = true := by decide +kernel

theorem tri_11_ok : (okAllSimplex tri_11 2 11 quadTol && insideSimplex tri_11 && weightsOk tri_11 (1, 2) quadTol) = true := by decide +kernel

theorem tri_12_ok : (okAllSimplex tri_12 2 12 quadTol && insideSimplex tri_12 && weightsOk tri_12 (1, 2) quadTol) = true := by decide +kernel

theorem tri_13_ok : (okAllSimplex tri_13 2 13 quadTol && insideSimplex tri_13 && weightsOk tri_13 (1, 2) quadTol) = true := by decide +kernel

theorem tri_14_ok : (okAllSimplex tri_14 2 14 quadTol && insideSimplex tri_14 && weightsOk tri_14 (1, 2) quadTol) = true := by decide +kernel

theorem tri_15_ok : (okAllSimplex tri_15 2 15 quadTol && insideSimplex tri_15 && weightsOk tri_15 (1, 2) quadTol) = true := by decide +kernel

theorem tri_16_ok : (okAllSimplex tri_16 2 16 quadTol && insideSimplex tri_16 && weightsOk tri_16 (1, 2) quadTol) = true := by decide +kernel

theorem tri_17_ok : (okAllSimplex tri_17 2 17 quadTol && insideSimplex tri_17 && weightsOk tri_17 (1, 2) quadTol) = true := by decide +kernel

theorem tri_18_ok : (okAllSimplex tri_18 2 18 quadTol && insideSimplex tri_18 && weightsOk tri_18 (1, 2) quadTol) = true := by decide +kernel

theorem tri_19_ok : (okAllSimplex tri_19 2 19 quadTol && insideSimplex tri_19 && weightsOk tri_19 (1, 2) quadTol) = true := by decide +kernel

theorem triTable_ok : ∀ p ∈ triTable, (okAllSimplex p.2 2 p.1 quadTol && insideSimplex p.2 && weightsOk p.2 (1, 2) quadTol) = true := by
  simp only [triTable, List.forall_mem_cons, List.not_mem_nil, false_imp_iff, implies_true, and_true]
  exact ⟨tri_2_ok, tri_3_ok, tri_4_ok, tri_5_ok, tri_6_ok, tri_7_ok, tri_8_ok, tri_9_ok, tri_10_ok, tri_11_ok, tri_12_ok, tri_13_ok, tri_14_ok, tri_15_ok, tri_16_ok, tri_17_ok, tri_18_ok, tri_19_ok⟩

theorem tet_1_ok : (okAllSimplex tet_1 3 1 quadTol && insideSimplex tet_1 && weightsOk tet_1 (1, 6) quadTol) = true := by decide +kernel

theorem tet_2_ok : (okAllSimplex tet_2 3 2 quadTol && insideSimplex tet_2 && weightsOk tet_2 (1, 6) quadTol) = true := by decide +kernel

theorem tet_3_ok : (okAllSimplex tet_3 3 3 quadTol && insideSimplex tet_3 && weightsOk tet_3 (1, 6) quadTol) = true := by decide +kernel

theorem tet_4_ok : (okAllSimplex tet_4 3 4 quadTol && insideSimplex tet_4 && weightsOk tet_4 (1, 6) quadTol) = true := by decide +kernel

theorem tet_5_ok : (okAllSimplex tet_5 3 5 quadTol && insideSimplex tet_5 && weightsOk tet_5 (1, 6) quadTol) = true := by decide +kernel

theorem tet_6_ok : (okAllSimplex tet_6 3 6 quadTol && insideSimplex tet_6 && weightsOk tet_6 (1, 6) quadTol) = true := by decide +kernel

theorem tet_7_ok : (okAllSimplex tet_7 3 7 quadTol && insideSimplex tet_7 && weightsOk tet_7 (1, 6) quadTol) = true := by decide +kernel

theorem tet_8_ok : (okAllSimplex tet_8 3 8 quadTol && insideSimplex tet_8 && weightsOk tet_8 (1, 6) quadTol) = true := by decide +kernel

theorem tetTable_ok : ∀ p ∈ tetTable, (okAllSimplex p.2 3 p.1 quadTol && insideSimplex p.2 && weightsOk p.2 (1, 6) quadTol) = true := by
  simp only [tetTable, List.forall_mem_cons, List.not_mem_nil, false_imp_iff, implies_true, and_true]
  exact ⟨tet_1_ok, tet_2_ok, tet_3_ok, tet_4_ok, tet_5_ok, tet_6_ok, tet_7_ok, tet_8_ok⟩

theorem line_2_ok : (okAllSimplex line_2 1 3 quadTol && insideBox line_2 && weightsOk line_2 (1, 1) quadTol) = true := by decide +kernel

theorem line_3_ok : (okAllSimplex line_3 1 5 quadTol && insideBox line_3 && weightsOk line_3 (1, 1) quadTol) = true := by decide +kernel

theorem line_4_ok : (okAllSimplex line_4 1 7 quadTol && insideBox line_4 && weightsOk line_4 (1, 1) quadTol) = true := by decide +kernel

theorem line_5_ok : (okAllSimplex line_5 1 9 quadTol && insideBox line_5 && weightsOk line_5 (1, 1) quadTol) = true := by decide +kernel

theorem line_6_ok : (okAllSimplex line_6 1 11 quadTol && insideBox line_6 && weightsOk line_6 (1, 1) quadTol) = true := by decide +kernel

theorem line_7_ok : (okAllSimplex line_7 1 13 quadTol && insideBox line_7 && weightsOk line_7 (1, 1) quadTol) = true := by decide +kernel

theorem line_8_ok : (okAllSimplex line_8 1 15 quadTol && insideBox line_8 && weightsOk line_8 (1, 1) quadTol) = true := by decide +kernel

theorem line_9_ok : (okAllSimplex line_9 1 17 quadTol && insideBox line_9 && weightsOk line_9 (1, 1) quadTol) = true := by decide +kernel

theorem line_10_ok : (okAllSimplex line_10 1 19 quadTol && insideBox line_10 && weightsOk line_10 (1, 1) quadTol) = true := by decide +kernel

theorem line_11_ok : (okAllSimplex line_11 1 21 quadTol && insideBox line_11 && weightsOk line_11 (1, 1) quadTol) = true := by decide +kernel

theorem line_12_ok : (okAllSimplex line_12 1 23 quadTol && insideBox line_12 && weightsOk line_12 (1, 1) quadTol) = true := by decide +kernel

theorem line_13_ok : (okAllSimplex line_13 1 25 quadTol && insideBox line_13 && weightsOk line_13 (1, 1) quadTol) = true := by decide +kernel

theorem line_14_ok : (okAllSimplex line_14 1 27 quadTol && insideBox line_14 && weightsOk line_14 (1, 1) quadTol) = true := by decide +kernel

theorem line_15_ok : (okAllSimplex line_15 1 29 quadTol && insideBox line_15 && weightsOk line_15 (1, 1) quadTol) = true := by decide +kernel

theorem line_16_ok : (okAllSimplex line_16 1 31 quadTol && insideBox line_16 && weightsOk line_16 (1, 1) quadTol) = true := by decide +kernel

theorem line_17_ok : (okAllSimplex line_17 1 33 quadTol && insideBox line_17 && weightsOk line_17 (1, 1) quadTol) = true := by decide +kernel

theorem line_18_ok : (okAllSimplex line_18 1 35 quadTol && insideBox line_18 && weightsOk line_18 (1, 1) quadTol) = true := by decide +kernel

theorem line_19_ok : (okAllSimplex line_19 1 37 quadTol && insideBox line_19 && weightsOk line_19 (1, 1) quadTol) = true := by decide +kernel

theorem line_20_ok : (okAllSimplex line_20 1 39 quadTol && insideBox line_20 && weightsOk line_20 (1, 1) quadTol) = true := by decide +kernel

theorem lineTable_ok : ∀ p ∈ lineTable, (okAllSimplex p.2 1 (2 * p.1 - 1) quadTol && insideBox p.2 && weightsOk p.2 (1, 1) quadTol) = true := by
  simp only [lineTable, List.forall_mem_cons, List.not_mem_nil, false_imp_iff, implies_true, and_true]
  exact ⟨line_2_ok, line_3_ok, line_4_ok, line_5_ok, line_6_ok, line_7_ok, line_8_ok, line_9_ok, line_10_ok, line_11_ok, line_12_ok, line_13_ok, line_14_ok, line_15_ok, line_16_ok, line_17_ok, line_18_ok, line_19_ok, line_20_ok⟩

end Skv.Gen
