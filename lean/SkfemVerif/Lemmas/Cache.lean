import SkfemVerif.Model.Cache
/-
Lemmas for C15.  The memo machine (`run_sound`): the invariant `Consistent` is kept by every step, hit or miss, and
under it a hit returns `f arg` as soon as the key separates `f`; one induction over the history.  The byte
serialisation: `leBytes` is injective below `256 ^ w`, so (shape, dtype, bytes) determines an array and the repaired
`hash_args` key a whole argument (`arrKey_inj`, `argKey_inj`).
-/
namespace Skv.Cache

theorem forall_mem_pair {α : Type} {P : α → Prop} {a b : α} (ha : P a) (hb : P b) :
    ∀ x ∈ [a, b], P x :=
  List.forall_mem_cons.2 ⟨ha, List.forall_mem_singleton.2 hb⟩

section memo
variable {A K V : Type} [DecidableEq K]

theorem lookup_mem {s : Store K V} {k : K} {v : V} (h : lookup s k = some v) : (k, v) ∈ s := by
  induction s with
  | nil => cases h
  | cons e r ih =>
    obtain ⟨k', v'⟩ := e
    unfold lookup at h
    split at h
    · rename_i hk
      cases h
      exact hk ▸ List.mem_cons_self
    · exact List.mem_cons_of_mem _ (ih h)

/-- every stored value is the value of `f` at some admissible argument with that key -/
def Consistent (f : A → V) (κ : A → K) (P : A → Prop) (s : Store K V) : Prop :=
  ∀ k v, (k, v) ∈ s → ∃ a, P a ∧ κ a = k ∧ f a = v

omit [DecidableEq K] in
theorem consistent_nil {f : A → V} {κ : A → K} {P : A → Prop} : Consistent f κ P [] :=
  fun _ _ h => nomatch h

section
variable {f : A → V} {κ : A → K} {keep : Store K V → Store K V} {P : A → Prop}
  (hsub : ∀ s e, e ∈ keep s → e ∈ s) (sep : ∀ a b, P a → P b → κ a = κ b → f a = f b)
include hsub sep

theorem step_sound {s : Store K V} (hs : Consistent f κ P s) {a : A} (ha : P a) :
    (step f κ keep s a).2 = f a ∧ Consistent f κ P (step f κ keep s a).1 := by
  unfold step
  cases hl : lookup s (κ a) with
  | some v =>
    obtain ⟨a', ha', hκ, rfl⟩ := hs _ _ (lookup_mem hl)
    exact ⟨sep a' a ha' ha hκ, hs⟩
  | none =>
    refine ⟨rfl, fun k v hm => ?_⟩
    rcases List.mem_cons.1 (hsub _ _ hm) with he | he
    · cases he
      exact ⟨a, ha, rfl, rfl⟩
    · exact hs k v he

theorem run_sound {s : Store K V} (hs : Consistent f κ P s) {h : List A} (hP : ∀ a ∈ h, P a) :
    (run f κ keep s h).2 = h.map f ∧ Consistent f κ P (run f κ keep s h).1 := by
  induction h generalizing s with
  | nil => exact ⟨rfl, hs⟩
  | cons a h ih =>
    obtain ⟨ha, hh⟩ := List.forall_mem_cons.1 hP
    obtain ⟨h1, h2⟩ := step_sound hsub sep hs ha
    obtain ⟨h3, h4⟩ := ih h2 hh
    exact ⟨congr (congrArg List.cons h1) h3, h4⟩

end

theorem outputs_pair_collision (f : A → V) (κ : A → K) (keep : Store K V → Store K V)
    (hnew : ∀ e : K × V, keep [e] = [e]) (a b : A) (hκ : κ a = κ b) :
    outputs f κ keep [a, b] = [f a, f a] := by
  simp [outputs, run, step, lookup, hnew, hκ]

omit [DecidableEq K] in
theorem Policy.keep_sub (p : Policy) (s : Store K V) (e : K × V) (h : e ∈ p.keep s) : e ∈ s := by
  cases p with
  | all => exact h
  | last => exact List.mem_of_mem_take h

omit [DecidableEq K] in
theorem Policy.keep_new (p : Policy) (e : K × V) : p.keep [e] = [e] := by
  cases p <;> rfl

end memo

theorem length_leBytes (w v : Nat) : (leBytes w v).length = w := by
  induction w generalizing v with
  | zero => rfl
  | succ w ih => simp [leBytes, ih]

theorem ofLe_leBytes (w v : Nat) : ofLeBytes (leBytes w v) = v % 256 ^ w := by
  induction w generalizing v with
  | zero => simp [leBytes, ofLeBytes, Nat.mod_one]
  | succ w ih =>
    simp only [leBytes, ofLeBytes, ih]
    rw [Nat.pow_succ', Nat.mod_mul]

theorem leBytes_inj {w v v' : Nat} (hv : v < 256 ^ w) (hv' : v' < 256 ^ w)
    (h : leBytes w v = leBytes w v') : v = v' := by
  have := congrArg ofLeBytes h
  rw [ofLe_leBytes, ofLe_leBytes, Nat.mod_eq_of_lt hv, Nat.mod_eq_of_lt hv'] at this
  exact this

theorem eq_of_map_eq {α β : Type} (g : α → β) (Q : α → Prop)
    (hg : ∀ x y, Q x → Q y → g x = g y → x = y) :
    ∀ (l1 l2 : List α), (∀ x ∈ l1, Q x) → (∀ x ∈ l2, Q x) → l1.map g = l2.map g → l1 = l2 := by
  intro l1
  induction l1 with
  | nil => intro l2 _ _ h; cases l2 with
    | nil => rfl
    | cons _ _ => simp at h
  | cons x r ih =>
    intro l2 h1 h2 h
    cases l2 with
    | nil => simp at h
    | cons y s =>
      obtain ⟨hx, hr⟩ := List.forall_mem_cons.1 h1
      obtain ⟨hy, hs⟩ := List.forall_mem_cons.1 h2
      obtain ⟨e, es⟩ := List.cons.inj h
      rw [hg x y hx hy e, ih s hr hs es]

theorem length_flatten_leBytes (w : Nat) (l : List Nat) :
    (l.map (leBytes w)).flatten.length = w * l.length := by
  simp only [List.length_flatten, List.map_map, Function.comp_def, length_leBytes,
    List.map_const', List.sum_replicate_nat, Nat.mul_comm]

theorem flatten_leBytes_inj {w : Nat} (hw : 0 < w) (l1 l2 : List Nat) (h1 : ∀ v ∈ l1, v < 256 ^ w)
    (h2 : ∀ v ∈ l2, v < 256 ^ w) (h : (l1.map (leBytes w)).flatten = (l2.map (leBytes w)).flatten) :
    l1 = l2 := by
  have hlen : l1.length = l2.length :=
    Nat.eq_of_mul_eq_mul_left hw (by rw [← length_flatten_leBytes, h, length_flatten_leBytes])
  have hb : l1.map (leBytes w) = l2.map (leBytes w) :=
    List.eq_iff_flatten_eq.2 ⟨h, by
      simp only [List.map_map, Function.comp_def, length_leBytes, List.map_const', hlen]⟩
  exact eq_of_map_eq (leBytes w) _ (fun _ _ hx hy => leBytes_inj hx hy) l1 l2 h1 h2 hb

theorem arrKey_inj {a b : NpArr} (ha : a.Valid) (hb : b.Valid)
    (h : (a.shape, a.kind, a.width, a.tobytes) = (b.shape, b.kind, b.width, b.tobytes)) : a = b := by
  obtain ⟨ak, aw, ash, av⟩ := a
  obtain ⟨bk, bw, bsh, bv⟩ := b
  simp only [Prod.mk.injEq] at h
  obtain ⟨h1, h2, h3, h4⟩ := h
  subst h1; subst h2; subst h3
  have : av = bv := flatten_leBytes_inj ha.1 av bv ha.2 hb.2 h4
  rw [this]

theorem ofNat_cons_inj {a b : Nat} {l m : List Int}
    (h : (a : Int) :: l = (b : Int) :: m) : a = b ∧ l = m := by
  simp only [List.cons.injEq] at h
  exact ⟨Int.ofNat.inj h.1, h.2⟩

theorem optArrKey_inj (x y : Option NpArr) (hx : optValid x) (hy : optValid y)
    (h : x.map (fun z => (z.shape, z.kind, z.width, z.tobytes))
       = y.map (fun z => (z.shape, z.kind, z.width, z.tobytes))) : x = y := by
  cases x with
  | none => cases y with
    | none => rfl
    | some _ => simp at h
  | some a => cases y with
    | none => simp at h
    | some b =>
      simp only [Option.map_some, Option.some.injEq] at h
      rw [arrKey_inj hx hy h]

theorem argKey_inj {a b : Arg} (ha : a.Valid) (hb : b.Valid)
    (hk : keyOf .shapeDtypeBytes a = keyOf .shapeDtypeBytes b) : a = b := by
  simp only [keyOf, GKey.mk.injEq] at hk
  obtain ⟨ho, hi⟩ := ofNat_cons_inj hk.1
  have harr := eq_of_map_eq _ optValid optArrKey_inj a.arrs b.arrs ha hb hk.2
  cases a
  cases b
  simp only at ho hi harr
  rw [ho, hi, harr]

theorem Dict.get?_set_self (d : Dict) (k : String) (v : Int) : (d.set k v).get? k = some v := by
  induction d with
  | nil => simp [Dict.set, Dict.get?]
  | cons e r ih =>
    obtain ⟨k', v'⟩ := e
    by_cases hk : k' = k <;> simp [Dict.set, Dict.get?, hk, ih]

end Skv.Cache
