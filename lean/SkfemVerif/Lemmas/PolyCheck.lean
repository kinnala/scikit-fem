import SkfemVerif.Model.Poly
import Mathlib.Data.List.Nodup
import Mathlib.Tactic.Ring
/-
The forms in which the kernel evaluates the model's polynomial checkers, each proved equal to the model's: `closeN`
for `Poly.close`, `checkTraceTableByFacet` for `checkTraceTable`.  `Gen/ShapeFacts.lean` and `Gen/TraceFacts.lean`
import this file and no other lemma file, so their kernel evaluations (the dearest of the development) are re-run
only when something here or in the model changes, and they load no `MvPolynomial`.
-/
namespace Skv.C09

theorem coeff_nil (e : Mono) : Poly.coeff [] e = 0 := rfl

theorem coeff_cons (t : ℚ × Mono) (p : Poly) (e : Mono) :
    Poly.coeff (t :: p) e = (if t.2 = e then t.1 else 0) + Poly.coeff p e := by
  unfold Poly.coeff
  by_cases h : t.2 = e
  · simp [h]
  · simp [h]

theorem mem_exps_of_mem {p : Poly} {t : ℚ × Mono} (h : t ∈ p) : t.2 ∈ p.exps :=
  List.mem_map_of_mem h

theorem exps_length (p : Poly) : p.exps.length = p.length := by
  simp [Poly.exps]

theorem exps_cons (t : ℚ × Mono) (p : Poly) : Poly.exps (t :: p) = t.2 :: Poly.exps p := rfl

theorem exps_append (p q : Poly) : Poly.exps (p ++ q) = Poly.exps p ++ Poly.exps q :=
  List.map_append

theorem coeff_eq_zero_of_not_mem (p : Poly) (e : Mono) (h : e ∉ Poly.exps p) : Poly.coeff p e = 0 := by
  induction p with
  | nil => rfl
  | cons t p ih =>
    rw [exps_cons, List.mem_cons, not_or] at h
    rw [coeff_cons, if_neg (Ne.symm h.1), ih h.2, add_zero]

theorem coeff_append (p q : Poly) (e : Mono) : (p ++ q).coeff e = p.coeff e + q.coeff e := by
  simp [Poly.coeff]

theorem coeff_neg (p : Poly) (e : Mono) : (Poly.neg p).coeff e = - p.coeff e := by
  induction p with
  | nil => simp [Poly.neg, coeff_nil]
  | cons t p ih =>
    rw [show Poly.neg (t :: p) = (-t.1, t.2) :: Poly.neg p from rfl, coeff_cons, coeff_cons, ih]
    split <;> ring

theorem exps_neg (p : Poly) : Poly.exps (Poly.neg p) = Poly.exps p := by
  simp [Poly.exps, Poly.neg]

theorem coeff_of_nodup (p : Poly) (h : (Poly.exps p).Nodup) (t : ℚ × Mono) (ht : t ∈ p) :
    p.coeff t.2 = t.1 := by
  induction p with
  | nil => simp at ht
  | cons u us ih =>
    rw [exps_cons, List.nodup_cons] at h
    rw [coeff_cons]
    rcases List.mem_cons.mp ht with rfl | ht
    · rw [if_pos rfl, coeff_eq_zero_of_not_mem us _ h.1, add_zero]
    · rw [if_neg (fun hc : u.2 = t.2 => h.1 (hc ▸ mem_exps_of_mem ht)), ih h.2 ht, zero_add]

theorem insertTerm_cons (t u : ℚ × Mono) (us : Poly) :
    Poly.insertTerm t (u :: us)
      = if u.2 = t.2 then (u.1 + t.1, u.2) :: us else u :: Poly.insertTerm t us := by
  simp [Poly.insertTerm]

theorem coeff_insertTerm (t : ℚ × Mono) (p : Poly) (e : Mono) :
    (Poly.insertTerm t p).coeff e = p.coeff e + (if t.2 = e then t.1 else 0) := by
  induction p with
  | nil => simp [Poly.insertTerm, coeff_cons, coeff_nil]
  | cons u us ih =>
    rw [insertTerm_cons]
    split
    · next h => simp only [coeff_cons, ← h]; split <;> ring
    · rw [coeff_cons, ih, coeff_cons]; ring

theorem mem_exps_insertTerm (t : ℚ × Mono) (p : Poly) (e : Mono) :
    e ∈ Poly.exps (Poly.insertTerm t p) ↔ e = t.2 ∨ e ∈ Poly.exps p := by
  induction p with
  | nil => exact List.mem_singleton.trans (or_iff_left List.not_mem_nil).symm
  | cons u us ih =>
    rw [insertTerm_cons]
    split
    · next h => rw [exps_cons, exps_cons, List.mem_cons, ← h, ← or_assoc, or_self]
    · rw [exps_cons, exps_cons, List.mem_cons, List.mem_cons, ih, or_left_comm]

theorem nodup_insertTerm (t : ℚ × Mono) (p : Poly) (h : (Poly.exps p).Nodup) :
    (Poly.exps (Poly.insertTerm t p)).Nodup := by
  induction p with
  | nil => exact List.nodup_singleton _
  | cons u us ih =>
    rw [exps_cons, List.nodup_cons] at h
    rw [insertTerm_cons]
    split
    · exact List.nodup_cons.mpr h
    · next hne =>
      rw [exps_cons, List.nodup_cons, mem_exps_insertTerm]
      exact ⟨fun hc => hc.elim hne h.1, ih h.2⟩

theorem foldl_insertTerm_spec (p : Poly) : ∀ acc : Poly, (Poly.exps acc).Nodup →
    (∀ e, (p.foldl (fun acc t => Poly.insertTerm t acc) acc).coeff e = acc.coeff e + p.coeff e)
    ∧ (∀ e, e ∈ Poly.exps (p.foldl (fun acc t => Poly.insertTerm t acc) acc)
        ↔ e ∈ Poly.exps acc ∨ e ∈ Poly.exps p)
    ∧ (Poly.exps (p.foldl (fun acc t => Poly.insertTerm t acc) acc)).Nodup := by
  induction p with
  | nil =>
    exact fun acc h => ⟨fun e => (add_zero _).symm, fun e => (or_iff_left List.not_mem_nil).symm, h⟩
  | cons t p ih =>
    intro acc h
    obtain ⟨h1, h2, h3⟩ := ih (Poly.insertTerm t acc) (nodup_insertTerm t acc h)
    refine ⟨fun e => ?_, fun e => ?_, h3⟩
    · rw [List.foldl_cons, h1, coeff_insertTerm, coeff_cons]; ring
    · rw [List.foldl_cons, h2, mem_exps_insertTerm, exps_cons, List.mem_cons,
        or_comm (a := e = t.2), or_assoc]

theorem norm_spec (p : Poly) : (∀ e, (Poly.norm p).coeff e = p.coeff e)
    ∧ (∀ e, e ∈ Poly.exps (Poly.norm p) ↔ e ∈ Poly.exps p) ∧ (Poly.exps (Poly.norm p)).Nodup := by
  obtain ⟨h1, h2, h3⟩ := foldl_insertTerm_spec p [] List.nodup_nil
  exact ⟨fun e => (h1 e).trans (zero_add _), fun e => (h2 e).trans (or_iff_right List.not_mem_nil), h3⟩

theorem ratAbs_eq_abs (q : ℚ) : Poly.ratAbs q = |q| := by
  unfold Poly.ratAbs
  split
  · rename_i h; rw [abs_of_neg h]
  · rename_i h; rw [abs_of_nonneg (not_lt.mp h)]

theorem close_iff (p q : Poly) (tol : ℚ) :
    Poly.close p q tol = true ↔ ∀ e ∈ p.exps ++ q.exps, |p.coeff e - q.coeff e| ≤ tol := by
  unfold Poly.close
  simp only [List.all_eq_true, decide_eq_true_eq, ratAbs_eq_abs]

/-- `close` as one does it by hand: collect the like terms of `p - q` once, then look at every coefficient.  The
    model's `close` scans both term lists again for every term (quadratic), and the kernel pays for that in
    every generated fact. -/
def closeN (p q : Poly) (tol : ℚ) : Bool :=
  (Poly.norm (p ++ Poly.neg q)).all (fun t => Poly.ratAbs t.1 ≤ tol)

theorem close_eq_closeN : @Poly.close = @closeN := by
  funext p q tol
  obtain ⟨h1, h2, h3⟩ := norm_spec (p ++ Poly.neg q)
  -- the terms of the normal form are exactly `(coeff p e - coeff q e, e)`, `e` occurring in `p` or `q`
  have hc : ∀ t ∈ Poly.norm (p ++ Poly.neg q), t.1 = p.coeff t.2 - q.coeff t.2 := fun t ht => by
    rw [← coeff_of_nodup _ h3 t ht, h1, coeff_append, coeff_neg, sub_eq_add_neg]
  rw [exps_append, exps_neg] at h2
  rw [Bool.eq_iff_iff, close_iff]
  simp only [closeN, List.all_eq_true, decide_eq_true_eq, ratAbs_eq_abs]
  constructor
  · intro h t ht
    rw [hc t ht]
    exact h t.2 ((h2 _).mp (mem_exps_of_mem ht))
  · intro h e hmem
    obtain ⟨t, ht, rfl⟩ := List.mem_map.mp ((h2 e).mpr hmem)
    rw [← hc t ht]
    exact h t ht

end Skv.C09

namespace Skv.C03b

def tr (vals : List Poly) (fmaps : List (List ℚ × List (List ℚ))) (f i : Nat) : Poly :=
  (vals.getD i []).substAffine (fmaps.getD f ([], [])).1 (fmaps.getD f ([], [])).2

/-- the (facet, function) pairs in the order in which `checkTraceTable` lists them -/
def tablePairs (nf nv : Nat) : List (Nat × Nat) :=
  (List.range nf).flatMap (fun f => (List.range nv).map (fun i => (f, i)))

/-- the first pair carrying the key `k`: all others with that key are compared with it -/
def firstKey (keys : List (List (Option Nat))) (nf nv k : Nat) : Option (Nat × Nat) :=
  (tablePairs nf nv).find? (fun gj => (keys.getD gj.1 []).getD gj.2 none == some k)

def entryOk (vals : List Poly) (fmaps : List (List ℚ × List (List ℚ)))
    (keys : List (List (Option Nat))) (tol : ℚ) (f i : Nat) : Bool :=
  match (keys.getD f []).getD i none with
  | none => Poly.close (tr vals fmaps f i) [] tol
  | some k =>
    match firstKey keys fmaps.length vals.length k with
    | some (g, j) => Poly.close (tr vals fmaps f i) (tr vals fmaps g j) tol
    | none => false

/-- `checkTraceTable` with the facet bound by an outer loop and the representative pair taken apart.  The kernel
    shares work only between syntactically equal terms: written this way all functions on one facet (and the
    representative of a key) meet the same terms for the facet's affine coordinate functions and their powers,
    which the model's `tr fi.1 fi.2` builds anew for every pair.  `Lemmas/Traces.lean` reads a passed table off
    this form too. -/
def checkTraceTableByFacet (vals : List Poly) (fmaps : List (List ℚ × List (List ℚ)))
    (keys : List (List (Option Nat))) (tol : ℚ) : Bool :=
  keys.length == fmaps.length && keys.all (fun r => r.length == vals.length) &&
  (List.range fmaps.length).all (fun f => (List.range vals.length).all (fun i =>
    entryOk vals fmaps keys tol f i))

theorem checkTraceTable_eq_byFacet : @checkTraceTable = @checkTraceTableByFacet := by
  funext vals fmaps keys tol
  simp only [checkTraceTable, checkTraceTableByFacet, entryOk, firstKey, tablePairs, tr,
    List.all_flatMap, List.all_map, Function.comp_def]
  refine congrArg _ (congrArg _ (funext fun f => congrArg _ (funext fun i => ?_)))
  cases (keys.getD f []).getD i none with
  | none => rfl
  | some k =>
    simp only
    generalize List.find? _ _ = o
    cases o with
    | none => rfl
    | some gj => cases gj; rfl

end Skv.C03b
