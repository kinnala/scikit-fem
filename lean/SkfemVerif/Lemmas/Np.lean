import SkfemVerif.Model.Np
import SkfemVerif.Lemmas.List
/-
Contracts of the NumPy models of `Model/Np.lean`.  Core Lean only.
-/
namespace Skv

/-- C-order reshape undoes storing a table row after row -/
theorem reshapeRows_flatMap_map {α β : Type} (xs : List α) (ys : List β) (f : α → β → Nat) :
    reshapeRows xs.length ys.length (xs.flatMap fun x => ys.map (f x))
      = xs.map fun x => ys.map (f x) := by
  induction xs with
  | nil => rfl
  | cons x xs ih =>
    rw [List.map_cons, ← ih, List.length_cons, reshapeRows, reshapeRows, List.range_succ_eq_map,
      List.map_cons, List.map_map, List.flatMap_cons]
    congr 1
    · rw [Nat.zero_mul, List.drop_zero, List.take_left' (List.length_map _)]
    · refine List.map_congr_left fun i _ => ?_
      rw [Function.comp, Nat.succ_mul, Nat.add_comm, ← List.drop_drop,
        List.drop_left' (List.length_map _)]

/-! ### `sortCol`: `np.sort` of one column is the ascending rearrangement -/

theorem sortCol_nil : sortCol [] = [] := rfl

theorem sortCol_cons (y : Nat) (ys : List Nat) :
    sortCol (y :: ys) = insertSorted y (sortCol ys) := rfl

theorem perm_insertSorted (x : Nat) (l : List Nat) : (insertSorted x l).Perm (x :: l) := by
  induction l with
  | nil => exact .refl _
  | cons y ys ih =>
    unfold insertSorted
    split
    · exact .refl _
    · exact (ih.cons y).trans (.swap x y ys)

theorem perm_sortCol (l : List Nat) : (sortCol l).Perm l := by
  induction l with
  | nil => exact .refl _
  | cons y ys ih => exact (perm_insertSorted y _).trans (ih.cons y)

theorem mem_sortCol {z : Nat} {l : List Nat} : z ∈ sortCol l ↔ z ∈ l :=
  (perm_sortCol l).mem_iff

theorem length_sortCol (l : List Nat) : (sortCol l).length = l.length :=
  (perm_sortCol l).length_eq

theorem pairwise_insertSorted {x : Nat} {l : List Nat} (h : l.Pairwise (· ≤ ·)) :
    (insertSorted x l).Pairwise (· ≤ ·) := by
  induction l with
  | nil => exact List.pairwise_singleton _ _
  | cons y ys ih =>
    rw [List.pairwise_cons] at h
    unfold insertSorted
    split
    · rename_i hxy
      exact List.pairwise_cons.mpr ⟨List.forall_mem_cons.mpr
        ⟨hxy, fun z hz => Nat.le_trans hxy (h.1 z hz)⟩, List.pairwise_cons.mpr h⟩
    · rename_i hxy
      refine List.pairwise_cons.mpr ⟨fun z hz => ?_, ih h.2⟩
      exact List.forall_mem_cons.mpr ⟨Nat.le_of_not_le hxy, h.1⟩ z
        ((perm_insertSorted x ys).mem_iff.mp hz)

theorem pairwise_sortCol (l : List Nat) : (sortCol l).Pairwise (· ≤ ·) := by
  induction l with
  | nil => exact .nil
  | cons y ys ih => exact pairwise_insertSorted ih

theorem eq_sortCol {l s : List Nat} (hp : s.Perm l) (hs : s.Pairwise (· ≤ ·)) : s = sortCol l :=
  (hp.trans (perm_sortCol l).symm).eq_of_pairwise (fun _ _ _ _ => Nat.le_antisymm) hs
    (pairwise_sortCol l)

theorem sortCol_congr {a b : List Nat} (h : a.Perm b) : sortCol a = sortCol b :=
  eq_sortCol ((perm_sortCol a).trans h) (pairwise_sortCol a)

theorem perm_of_sortCol_eq {a b : List Nat} (h : sortCol a = sortCol b) : a.Perm b :=
  (perm_sortCol a).symm.trans (h ▸ perm_sortCol b)

theorem sortCol_of_pairwise {l : List Nat} (h : l.Pairwise (· ≤ ·)) : sortCol l = l :=
  (eq_sortCol (.refl l) h).symm

/-! ### `unique`: members, `return_inverse`, `return_index` (no assumption on `<`) -/

section Unique
variable {α : Type} [LT α] [DecidableLT α] [DecidableEq α]

theorem unique_nil : unique ([] : List α) = [] := rfl

theorem unique_cons (y : α) (ys : List α) :
    unique (y :: ys) = insertU y (unique ys) := rfl

theorem mem_insertU {x z : α} {l : List α} : z ∈ insertU x l ↔ z = x ∨ z ∈ l := by
  induction l with
  | nil => simp [insertU]
  | cons y ys ih =>
    unfold insertU
    split
    · rename_i h; subst h; simp
    · split
      · exact List.mem_cons
      · rw [List.mem_cons, ih, List.mem_cons]; exact or_left_comm

theorem mem_unique {z : α} {l : List α} : z ∈ unique l ↔ z ∈ l := by
  induction l with
  | nil => exact .rfl
  | cons y ys ih => rw [unique_cons, mem_insertU, ih, List.mem_cons]

theorem length_uniqueInverse (l : List α) : (uniqueInverse l).length = l.length :=
  List.length_map _

/-- `return_inverse`: `unique(l)[inverse] = l` -/
theorem uniqueInverse_spec (l : List α) (d : α) :
    (uniqueInverse l).map ((unique l).getD · d) = l := by
  rw [uniqueInverse, List.map_map]
  exact map_eq_self fun x hx => getD_idxOf (mem_unique.mpr hx) d

/-- `return_index`: `l[index] = unique(l)` -/
theorem uniqueIndex_spec (l : List α) (d : α) : (uniqueIndex l).map (l.getD · d) = unique l := by
  rw [uniqueIndex, List.map_map]
  exact map_eq_self fun u hu => getD_idxOf (mem_unique.mp hu) d

theorem lt_length_of_mem_uniqueIndex {l : List α} {i : Nat} (hi : i ∈ uniqueIndex l) :
    i < l.length := by
  obtain ⟨u, hu, rfl⟩ := List.mem_map.mp hi
  exact List.idxOf_lt_length_of_mem (mem_unique.mp hu)

end Unique

/-! ### strict total orders: what `np.unique` needs of `<` to return an ascending list -/

class StrictTotal (α : Type) [LT α] : Prop where
  irrefl : ∀ a : α, ¬ a < a
  trans : ∀ a b c : α, a < b → b < c → a < c
  tri : ∀ a b : α, a < b ∨ a = b ∨ b < a

instance : StrictTotal Nat where
  irrefl := Nat.lt_irrefl
  trans := fun _ _ _ => Nat.lt_trans
  tri := fun a b => by omega

instance : StrictTotal (List Nat) where
  irrefl := fun a => List.lt_irrefl a
  trans := fun _ _ _ h1 h2 => List.lt_trans h1 h2
  tri := fun a b => by
    by_cases h1 : a < b
    · exact Or.inl h1
    · by_cases h2 : b < a
      · exact Or.inr (Or.inr h2)
      · exact Or.inr (Or.inl (List.le_antisymm (List.not_lt.mp h2) (List.not_lt.mp h1)))

theorem StrictTotal.asymm {α : Type} [LT α] [StrictTotal α] (a b : α) (h : a < b) : ¬ b < a :=
  fun h' => irrefl a (trans _ _ _ h h')

theorem lt_of_getElem_lt {α : Type} [LT α] [StrictTotal α] {l : List α} (hs : l.Pairwise (· < ·))
    {i j : Nat} (hi : i < l.length) (hj : j < l.length) (h : l[i] < l[j]) : i < j := by
  refine Nat.lt_of_not_le fun hle => ?_
  rcases Nat.lt_or_eq_of_le hle with hlt | rfl
  · exact StrictTotal.asymm _ _ h (List.pairwise_iff_getElem.mp hs _ _ hj hi hlt)
  · exact StrictTotal.irrefl _ h

/-! ### `unique` is strictly ascending, hence determined by the set of values -/

section UniqueSorted
variable {α : Type} [LT α] [DecidableLT α] [DecidableEq α] [StrictTotal α]

theorem pairwise_insertU {x : α} {l : List α} (h : l.Pairwise (· < ·)) :
    (insertU x l).Pairwise (· < ·) := by
  induction l with
  | nil => exact List.pairwise_singleton _ _
  | cons y ys ih =>
    unfold insertU
    split
    · exact h
    · rename_i hne
      rw [List.pairwise_cons] at h
      split
      · rename_i hxy
        exact List.pairwise_cons.mpr ⟨List.forall_mem_cons.mpr
          ⟨hxy, fun z hz => StrictTotal.trans _ _ _ hxy (h.1 z hz)⟩, List.pairwise_cons.mpr h⟩
      · rename_i hxy
        refine List.pairwise_cons.mpr ⟨fun z hz => ?_, ih h.2⟩
        rcases mem_insertU.mp hz with rfl | hz
        · exact ((StrictTotal.tri z y).resolve_left hxy).resolve_left hne
        · exact h.1 z hz

theorem pairwise_unique (l : List α) : (unique l).Pairwise (· < ·) := by
  induction l with
  | nil => exact .nil
  | cons y ys ih => exact pairwise_insertU ih

theorem nodup_unique (l : List α) : (unique l).Nodup :=
  nodup_of_pairwise StrictTotal.irrefl (pairwise_unique l)

set_option linter.unusedSectionVars false in
theorem sorted_ext : ∀ {l₁ l₂ : List α}, l₁.Pairwise (· < ·) → l₂.Pairwise (· < ·) →
    (∀ x, x ∈ l₁ ↔ x ∈ l₂) → l₁ = l₂ :=
  eq_of_pairwise_of_mem_iff StrictTotal.asymm

theorem unique_of_sorted {l : List α} (h : l.Pairwise (· < ·)) : unique l = l :=
  sorted_ext (pairwise_unique l) h (fun _ => mem_unique)

theorem unique_congr {l₁ l₂ : List α} (h : ∀ x, x ∈ l₁ ↔ x ∈ l₂) : unique l₁ = unique l₂ :=
  sorted_ext (pairwise_unique _) (pairwise_unique _)
    (fun x => by rw [mem_unique, mem_unique]; exact h x)

end UniqueSorted

/-! ### `listMax` (`np.max` of non-negative integers) -/

theorem foldl_max_le_iff (l : List Nat) (a M : Nat) :
    l.foldl max a ≤ M ↔ a ≤ M ∧ ∀ x ∈ l, x ≤ M := by
  induction l generalizing a with
  | nil => simp
  | cons y ys ih => rw [List.foldl_cons, ih, Nat.max_le, List.forall_mem_cons, and_assoc]

theorem listMax_le_iff {l : List Nat} {M : Nat} : listMax l ≤ M ↔ ∀ x ∈ l, x ≤ M :=
  (foldl_max_le_iff l 0 M).trans (and_iff_right (Nat.zero_le M))

theorem le_listMax {l : List Nat} {x : Nat} (h : x ∈ l) : x ≤ listMax l :=
  listMax_le_iff.mp (Nat.le_refl _) x h

theorem listMax_eq {l : List Nat} {M : Nat} (hM : M ∈ l) (h : ∀ x ∈ l, x ≤ M) : listMax l = M :=
  Nat.le_antisymm (listMax_le_iff.mpr h) (le_listMax hM)

/-! ### `complementRange` (`np.setdiff1d(np.arange(n), D)`) -/

theorem mem_complementRange {n i : Nat} {D : List Nat} :
    i ∈ complementRange n D ↔ (i < n ∧ i ∉ D) := by
  simp [complementRange]

theorem nodup_complementRange (n : Nat) (D : List Nat) : (complementRange n D).Nodup :=
  List.nodup_range.filter _

theorem pairwise_complementRange (n : Nat) (D : List Nat) :
    (complementRange n D).Pairwise (· < ·) :=
  pairwise_filter_range n _

end Skv
