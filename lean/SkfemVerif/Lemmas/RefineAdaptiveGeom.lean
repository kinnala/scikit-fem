import SkfemVerif.Lemmas.RefineAdaptive
import Mathlib.Tactic.Linarith
import Mathlib.Tactic.Ring
import Mathlib.Tactic.LinearCombination
import Mathlib.Tactic.IntervalCases
import Mathlib.Algebra.BigOperators.Group.List.Basic
/-
Geometry behind C13.  2-D templates: the edge functions `orient` are affine in each vertex, so those of a half of a
bisected triangle are half-differences of the parent's.  `Tiles` composes (`Tiles.join`): `Tiles.bisect` is the one
geometric lemma, green and blue are compositions of it, red is direct.  Any dimension: a point of a simplex `S` is
`comb c S w`; a bisection step moves the weights `w`, a bisection tree iterates it; for tetrahedra each step halves
`vol3`.  Only signs need the order: the algebra is over a field, of characteristic zero where a midpoint is halved.
-/
namespace Skv.RA

section Orient
variable {K : Type} [Field K]

/-- reference coordinates of the symbolic vertices: parent = unit triangle -/
def rvx : RV → K
  | .v0 => 0 | .v1 => 1 | .v2 => 0 | .m0 => 1/2 | .m1 => 1/2 | .m2 => 0
def rvy : RV → K
  | .v0 => 0 | .v1 => 0 | .v2 => 1 | .m0 => 0 | .m1 => 1/2 | .m2 => 1/2

/-- twice the signed area of `(a, b, (u,v))` -/
def orient (a b : RV) (u v : K) : K :=
  (rvx b - rvx a) * (v - rvy a) - (rvy b - rvy a) * (u - rvx a)

theorem orient_swap (a b : RV) (u v : K) : orient b a u v = - orient a b u v := by
  unfold orient; ring

theorem orient_self (a : RV) (u v : K) : orient a a u v = 0 := by
  unfold orient; ring

theorem orient_sum (a b c : RV) (u v : K) :
    orient a b u v + orient b c u v + orient c a u v = orient a b (rvx c) (rvy c) := by
  unfold orient; ring

variable (K) in
/-- `m` is the midpoint of `a` and `b` -/
def Midpoint (a b m : RV) : Prop :=
  2 * rvx (K := K) m = rvx a + rvx b ∧ 2 * rvy (K := K) m = rvy a + rvy b

theorem orient_mid_left {a b m : RV} (h : Midpoint K a b m) (c : RV) (u v : K) :
    2 * orient m c u v = orient a c u v + orient b c u v := by
  unfold orient; linear_combination (rvy c - v) * h.1 + (u - rvx c) * h.2

theorem orient_mid_right {a b m : RV} (h : Midpoint K a b m) (c : RV) (u v : K) :
    2 * orient c m u v = orient c a u v + orient c b u v := by
  unfold orient; linear_combination (v - rvy c) * h.1 - (u - rvx c) * h.2

/-- `inClosed` (below) for `≤`, `inOpen` for `<`, by unfolding -/
def inR (R : K → K → Prop) (T : RV × RV × RV) (u v : K) : Prop :=
  (R 0 (orient T.1 T.2.1 u v) ∧ R 0 (orient T.2.1 T.2.2 u v) ∧ R 0 (orient T.2.2 T.1 u v))
  ∨ (R (orient T.1 T.2.1 u v) 0 ∧ R (orient T.2.1 T.2.2 u v) 0 ∧ R (orient T.2.2 T.1 u v) 0)

theorem inR_rot {R : K → K → Prop} {a b c : RV} {u v : K} (h : inR R (a, b, c) u v) : inR R (c, a, b) u v :=
  h.imp (fun ⟨h1, h2, h3⟩ => ⟨h3, h1, h2⟩) (fun ⟨h1, h2, h3⟩ => ⟨h3, h1, h2⟩)

end Orient

section
variable {K : Type} [LinearOrder K]

/-- `≤` or `<`: what holds of the closed and of the open triangle for the same reason is proved once -/
inductive IsOrd : (K → K → Prop) → Prop
  | le : IsOrd (· ≤ ·)
  | lt : IsOrd (· < ·)

theorem IsOrd.trans {R : K → K → Prop} (hR : IsOrd R) {a b c : K} : R a b → R b c → R a c := by
  cases hR
  · exact le_trans
  · exact lt_trans

end

section Tiles
variable {K : Type} [Field K] [LinearOrder K]

def inClosed (T : RV × RV × RV) (u v : K) : Prop :=
  (0 ≤ orient T.1 T.2.1 u v ∧ 0 ≤ orient T.2.1 T.2.2 u v ∧ 0 ≤ orient T.2.2 T.1 u v)
  ∨ (orient T.1 T.2.1 u v ≤ 0 ∧ orient T.2.1 T.2.2 u v ≤ 0 ∧ orient T.2.2 T.1 u v ≤ 0)

def inOpen (T : RV × RV × RV) (u v : K) : Prop :=
  (0 < orient T.1 T.2.1 u v ∧ 0 < orient T.2.1 T.2.2 u v ∧ 0 < orient T.2.2 T.1 u v)
  ∨ (orient T.1 T.2.1 u v < 0 ∧ orient T.2.1 T.2.2 u v < 0 ∧ orient T.2.2 T.1 u v < 0)

def inParent (u v : K) : Prop := 0 ≤ u ∧ 0 ≤ v ∧ u + v ≤ 1

variable (K) in
/-- the triangles of `L` tile the triangle `T`: they cover it, lie in it, their interiors lie in its
    interior and are pairwise disjoint -/
structure Tiles (L : List (RV × RV × RV)) (T : RV × RV × RV) : Prop where
  cover : ∀ u v : K, inClosed T u v → ∃ T' ∈ L, inClosed T' u v
  inside : ∀ {R : K → K → Prop}, IsOrd R → ∀ T' ∈ L, ∀ u v : K, inR R T' u v → inR R T u v
  disjoint : L.Pairwise (fun T₁ T₂ => ∀ u v : K, ¬ (inOpen T₁ u v ∧ inOpen T₂ u v))

theorem Tiles.single {T T' : RV × RV × RV} (hc : ∀ u v : K, inClosed T u v → inClosed T' u v)
    (hi : ∀ {R : K → K → Prop}, IsOrd R → ∀ u v : K, inR R T' u v → inR R T u v) : Tiles K [T'] T :=
  ⟨fun u v h => ⟨T', List.mem_singleton_self _, hc u v h⟩,
    fun hR _ hT u v h => hi hR u v (List.mem_singleton.1 hT ▸ h), List.pairwise_singleton _ _⟩

theorem Tiles.refl (T : RV × RV × RV) : Tiles K [T] T :=
  .single (fun _ _ h => h) (fun _ _ _ h => h)

theorem Tiles.rot (a b c : RV) : Tiles K [(c, a, b)] (a, b, c) :=
  .single (fun _ _ => inR_rot) (fun _ _ _ h => inR_rot (inR_rot h))

theorem Tiles.perm {L L' : List (RV × RV × RV)} {T : RV × RV × RV} (hp : L.Perm L') (h : Tiles K L T) :
    Tiles K L' T :=
  ⟨fun u v hc => let ⟨T', hT, hc'⟩ := h.cover u v hc; ⟨T', hp.mem_iff.1 hT, hc'⟩,
    fun hR T' hT => h.inside hR T' (hp.mem_iff.2 hT),
    (hp.pairwise_iff fun h u v hh => h u v hh.symm).1 h.disjoint⟩

theorem Tiles.join {T₁ T₂ T : RV × RV × RV} {L₁ L₂ : List (RV × RV × RV)} (h : Tiles K [T₁, T₂] T)
    (h₁ : Tiles K L₁ T₁) (h₂ : Tiles K L₂ T₂) : Tiles K (L₁ ++ L₂) T := by
  have m₁ : T₁ ∈ [T₁, T₂] := List.mem_cons_self
  have m₂ : T₂ ∈ [T₁, T₂] := List.mem_cons_of_mem _ List.mem_cons_self
  refine ⟨fun u v hp => ?_, fun hR T' hT u v hc => ?_, ?_⟩
  · obtain ⟨T', hT, hc⟩ := h.cover u v hp
    rcases List.mem_pair.1 hT with rfl | rfl
    · obtain ⟨T'', hT'', hc'⟩ := h₁.cover u v hc
      exact ⟨T'', List.mem_append_left _ hT'', hc'⟩
    · obtain ⟨T'', hT'', hc'⟩ := h₂.cover u v hc
      exact ⟨T'', List.mem_append_right _ hT'', hc'⟩
  · rcases List.mem_append.1 hT with hT | hT
    · exact h.inside hR _ m₁ u v (h₁.inside hR T' hT u v hc)
    · exact h.inside hR _ m₂ u v (h₂.inside hR T' hT u v hc)
  · refine List.pairwise_append.2 ⟨h₁.disjoint, h₂.disjoint, fun x hx y hy u v hxy => ?_⟩
    exact List.rel_of_pairwise_cons h.disjoint (List.mem_singleton_self _) u v
      ⟨h₁.inside .lt x hx u v hxy.1, h₂.inside .lt y hy u v hxy.2⟩

end Tiles

section Templates
variable {K : Type} [Field K] [LinearOrder K] [IsStrictOrderedRing K] {R : K → K → Prop}
open RV

/-- under `R`, `x` compares with `0` as `p` with `q` -/
structure SignAs (R : K → K → Prop) (x p q : K) : Prop where
  pos : R 0 x ↔ R q p
  neg : R x 0 ↔ R p q

/-- The sign inferences of the bisection and of the red template go through this lemma: applying it costs a
    unification, where `linarith` and the library's order lemmas search the instances of the abstract ordered
    field at every call. -/
theorem SignAs.of_mul_eq_sub (hR : IsOrd R) {c x p q : K} (hc : 0 < c) (e : c * x = p - q) : SignAs R x p q := by
  have h1 : 0 ≤ x ↔ q ≤ p := by
    rw [← sub_nonneg (a := p), ← e, mul_nonneg_iff_of_pos_left hc]
  have h2 : 0 < x ↔ q < p := by
    rw [← sub_pos (a := p), ← e, mul_pos_iff_of_pos_left hc]
  cases hR
  · exact ⟨h1, not_lt.symm.trans ((not_congr h2).trans not_lt)⟩
  · exact ⟨h2, not_le.symm.trans ((not_congr h1).trans not_le)⟩

theorem SignAs.of_mul_eq (hR : IsOrd R) {c x y : K} (hc : 0 < c) (e : c * x = y) : SignAs R x y 0 :=
  .of_mul_eq_sub hR hc (e.trans (sub_zero y).symm)

theorem orient_swap_sign (hR : IsOrd R) {a b : RV} {u v : K} : SignAs R (orient b a u v) 0 (orient a b u v) :=
  .of_mul_eq_sub hR one_pos (by rw [one_mul, zero_sub, orient_swap])

theorem inR_swap (hR : IsOrd R) {a b c : RV} {u v : K} (h : inR R (a, b, c) u v) : inR R (a, c, b) u v :=
  h.symm.imp
    (fun ⟨h1, h2, h3⟩ =>
      ⟨(orient_swap_sign hR).pos.2 h3, (orient_swap_sign hR).pos.2 h2, (orient_swap_sign hR).pos.2 h1⟩)
    (fun ⟨h1, h2, h3⟩ =>
      ⟨(orient_swap_sign hR).neg.2 h3, (orient_swap_sign hR).neg.2 h2, (orient_swap_sign hR).neg.2 h1⟩)

theorem Tiles.swap (a b c : RV) : Tiles K [(a, c, b)] (a, b, c) :=
  .single (fun _ _ => inR_swap .le) (fun hR _ _ => inR_swap hR)

/-- a positively oriented triangle in coordinates, given what its edge functions compare as -/
theorem inR_iff (hR : IsOrd R) {a b c : RV} (hA : 0 < orient (K := K) a b (rvx c) (rvy c))
    {u v p₁ q₁ p₂ q₂ p₃ q₃ : K} (s₁ : SignAs R (orient a b u v) p₁ q₁) (s₂ : SignAs R (orient b c u v) p₂ q₂)
    (s₃ : SignAs R (orient c a u v) p₃ q₃) : inR R (a, b, c) u v ↔ R q₁ p₁ ∧ R q₂ p₂ ∧ R q₃ p₃ := by
  refine ⟨fun h => ?_, fun ⟨h1, h2, h3⟩ => .inl ⟨s₁.pos.2 h1, s₂.pos.2 h2, s₃.pos.2 h3⟩⟩
  -- the edge functions add up to the area: only the first alternative of `inR` can hold
  have hs := orient_sum a b c u v
  rcases h with ⟨h1, h2, h3⟩ | ⟨h1, h2, h3⟩
  · exact ⟨s₁.pos.1 h1, s₂.pos.1 h2, s₃.pos.1 h3⟩
  · cases hR <;> linarith

theorem inR_parent (hR : IsOrd R) (u v : K) : inR R (v0, v1, v2) u v ↔ R 0 u ∧ R 0 v ∧ R (u + v) 1 := by
  have A : 0 < orient (K := K) v2 v0 (rvx v1) (rvy v1) := by simp only [orient, rvx, rvy]; norm_num
  refine Iff.trans ⟨inR_rot, fun h => inR_rot (inR_rot h)⟩
    (inR_iff hR A (.of_mul_eq hR one_pos ?_) (.of_mul_eq hR one_pos ?_) (.of_mul_eq_sub hR one_pos ?_)) <;>
    (simp only [orient, rvx, rvy]; ring)

theorem inParent_iff (u v : K) : inParent u v ↔ inClosed (v0, v1, v2) u v :=
  (inR_parent .le u v).symm

/-- With `α β γ` the edge functions of the parent, those of the halves are `(β - α)/2, γ/2, α` and
    `γ/2, (α - β)/2, β`: the halves are the parts `α ≤ β` and `β ≤ α` of the parent. -/
theorem Tiles.bisect {a b m : RV} (h : Midpoint K a b m) (c : RV) :
    Tiles K [(c, m, a), (b, m, c)] (a, c, b) := by
  have k2 : (0 : K) < 2 := two_pos
  have e : ∀ {R : K → K → Prop}, IsOrd R → ∀ u v : K,
      SignAs R (orient c m u v) (orient c b u v) (orient a c u v)
      ∧ SignAs R (orient m a u v) (orient b a u v) 0 ∧ SignAs R (orient b m u v) (orient b a u v) 0
      ∧ SignAs R (orient m c u v) (orient a c u v) (orient c b u v) := fun hR u v =>
    ⟨.of_mul_eq_sub hR k2 (by rw [orient_mid_right h, orient_swap a c]; ring),
      .of_mul_eq hR k2 (by rw [orient_mid_left h, orient_self]; ring),
      .of_mul_eq hR k2 (by rw [orient_mid_right h, orient_self]; ring),
      .of_mul_eq_sub hR k2 (by rw [orient_mid_left h, orient_swap c b]; ring)⟩
  refine ⟨fun u v hp => ?_, fun hR T' hT u v hc => ?_, List.pairwise_pair.2 fun u v hh => ?_⟩
  · obtain ⟨e1, e2, e3, e4⟩ := e .le u v
    simp only [List.mem_cons, List.not_mem_nil, or_false, exists_eq_or_imp, exists_eq_left]
    rcases hp with ⟨h1, h2, h3⟩ | ⟨h1, h2, h3⟩ <;>
      rcases le_total (orient a c u v) (orient c b u v) with hle | hle
    · exact .inl (.inl ⟨e1.pos.2 hle, e2.pos.2 h3, h1⟩)
    · exact .inr (.inl ⟨e3.pos.2 h3, e4.pos.2 hle, h2⟩)
    · exact .inr (.inr ⟨e3.neg.2 h3, e4.neg.2 hle, h2⟩)
    · exact .inl (.inr ⟨e1.neg.2 hle, e2.neg.2 h3, h1⟩)
  · obtain ⟨e1, e2, e3, e4⟩ := e hR u v
    rcases List.mem_pair.1 hT with rfl | rfl <;> rcases hc with ⟨h1, h2, h3⟩ | ⟨h1, h2, h3⟩
    · exact .inl ⟨h3, hR.trans h3 (e1.pos.1 h1), e2.pos.1 h2⟩
    · exact .inr ⟨h3, hR.trans (e1.neg.1 h1) h3, e2.neg.1 h2⟩
    · exact .inl ⟨hR.trans h3 (e4.pos.1 h2), h3, e3.pos.1 h1⟩
    · exact .inr ⟨hR.trans (e4.neg.1 h2) h3, h3, e3.neg.1 h1⟩
  · obtain ⟨e1, e2, e3, e4⟩ := e .lt u v
    rcases hh with ⟨⟨h1, h2, h3⟩ | ⟨h1, h2, h3⟩, ⟨h4, h5, h6⟩ | ⟨h4, h5, h6⟩⟩
    · exact lt_asymm (e1.pos.1 h1) (e4.pos.1 h5)
    · exact lt_asymm (e2.pos.1 h2) (e3.neg.1 h4)
    · exact lt_asymm (e3.pos.1 h4) (e2.neg.1 h2)
    · exact lt_asymm (e1.neg.1 h1) (e4.neg.1 h5)

theorem midpoint_m0 : Midpoint K v1 v0 m0 := by constructor <;> norm_num [rvx, rvy]
theorem midpoint_m1 : Midpoint K v2 v1 m1 := by constructor <;> norm_num [rvx, rvy]
theorem midpoint_m2 : Midpoint K v0 v2 m2 := by constructor <;> norm_num [rvx, rvy]

theorem tiles_green : Tiles K (template .green) (v0, v1, v2) := .bisect midpoint_m2 v1

/-- the green half `(v1, m2, v0)` is cut again, at `m0` -/
theorem tiles_blue2 : Tiles K (template .blue2) (v0, v1, v2) :=
  tiles_green.join ((Tiles.bisect midpoint_m0 m2).perm (.swap _ _ _)) (.refl _)

/-- the green half `(v2, m2, v1)` is cut again, at `m1`; the template lists `(v1, m2, v0)` as `(v1, v0, m2)` and
    the child `(m2, m1, v2)` as `(v2, m2, m1)` -/
theorem tiles_blue1 : Tiles K (template .blue1) (v0, v1, v2) :=
  tiles_green.join (.swap _ _ _)
    (((Tiles.bisect midpoint_m1 m2).perm (.swap _ _ _)).join (.refl _) (.rot _ _ _))

theorem area_red : 0 < orient (K := K) v0 m0 (rvx m2) (rvy m2) ∧ 0 < orient (K := K) v1 m1 (rvx m0) (rvy m0)
    ∧ 0 < orient (K := K) v2 m2 (rvx m1) (rvy m1) ∧ 0 < orient (K := K) m1 m2 (rvx m0) (rvy m0) := by
  simp only [orient, rvx, rvy]
  norm_num

/-- With `1 - u - v`, `u`, `v` the barycentric coordinates of `v0`, `v1`, `v2`, the corner child at `vᵢ` is the
    part of the parent where the coordinate of `vᵢ` is `≥ 1/2`, the middle child the part where all three are
    `≤ 1/2` (the second and third child are listed clockwise). -/
theorem red_iff (hR : IsOrd R) (u v : K) :
    (inR R (v0, m0, m2) u v ↔ R 0 v ∧ R (2 * u + 2 * v) 1 ∧ R 0 u)
    ∧ (inR R (v1, m0, m1) u v ↔ R (u + v) 1 ∧ R 1 (2 * u) ∧ R 0 v)
    ∧ (inR R (v2, m1, m2) u v ↔ R 0 u ∧ R 1 (2 * v) ∧ R (u + v) 1)
    ∧ (inR R (m1, m2, m0) u v ↔ R (2 * v) 1 ∧ R 1 (2 * u + 2 * v) ∧ R (2 * u) 1) := by
  obtain ⟨A0, A1, A2, A3⟩ := area_red (K := K)
  have k2 : (0 : K) < 2 := two_pos
  have k4 : (0 : K) < 4 := four_pos
  refine ⟨inR_iff hR A0 (.of_mul_eq hR k2 ?_) (.of_mul_eq_sub hR k4 ?_) (.of_mul_eq hR k2 ?_),
    Iff.trans ⟨inR_swap hR, inR_swap hR⟩
      (inR_iff hR A1 (.of_mul_eq_sub hR k2 ?_) (.of_mul_eq_sub hR k4 ?_) (.of_mul_eq hR k2 ?_)),
    Iff.trans ⟨inR_swap hR, inR_swap hR⟩
      (inR_iff hR A2 (.of_mul_eq hR k2 ?_) (.of_mul_eq_sub hR k4 ?_) (.of_mul_eq_sub hR k2 ?_)),
    inR_iff hR A3 (.of_mul_eq_sub hR k4 ?_) (.of_mul_eq_sub hR k4 ?_) (.of_mul_eq_sub hR k4 ?_)⟩ <;>
    (simp only [orient, rvx, rvy]; ring)

/-- Red is not a composition of bisections: its middle child has no vertex of the parent, and `m0 m1 m2`
    are the only midpoints among the symbolic vertices. -/
theorem tiles_red : Tiles K (template .red) (v0, v1, v2) := by
  refine ⟨fun u v hp => ?_, fun hR T' hT u v hc => (inR_parent hR u v).2 ?_, ?_⟩
  · obtain ⟨hu, hv, huv⟩ := (inR_parent .le u v).1 hp
    obtain ⟨c0, c1, c2, c3⟩ := red_iff .le u v
    simp only [template, List.mem_cons, List.not_mem_nil, or_false, exists_eq_or_imp, exists_eq_left]
    rcases le_total (2 * u + 2 * v) 1 with h0 | h0
    · exact .inl (c0.2 ⟨hv, h0, hu⟩)
    rcases le_total 1 (2 * u) with h1 | h1
    · exact .inr (.inl (c1.2 ⟨huv, h1, hv⟩))
    rcases le_total 1 (2 * v) with h2 | h2
    · exact .inr (.inr (.inl (c2.2 ⟨hu, h2, huv⟩)))
    · exact .inr (.inr (.inr (c3.2 ⟨h2, h0, h1⟩)))
  · obtain ⟨c0, c1, c2, c3⟩ := red_iff hR u v
    simp only [template, List.mem_cons, List.not_mem_nil, or_false] at hT
    rcases hT with rfl | rfl | rfl | rfl
    · obtain ⟨hv, h, hu⟩ := c0.1 hc
      cases hR <;> exact ⟨hu, hv, by linarith⟩
    · obtain ⟨huv, h, hv⟩ := c1.1 hc
      cases hR <;> exact ⟨by linarith, hv, huv⟩
    · obtain ⟨hu, h, huv⟩ := c2.1 hc
      cases hR <;> exact ⟨hu, by linarith, huv⟩
    · obtain ⟨hv, h, hu⟩ := c3.1 hc
      cases hR <;> exact ⟨by linarith, by linarith, by linarith⟩
  · simp only [template, List.pairwise_cons, List.mem_cons, List.not_mem_nil, or_false,
      forall_eq_or_imp, forall_eq, IsEmpty.forall_iff, implies_true, List.Pairwise.nil, and_true]
    refine ⟨⟨?_, ?_, ?_⟩, ⟨?_, ?_⟩, ?_⟩ <;> intro u v h <;> obtain ⟨c0, c1, c2, c3⟩ := red_iff .lt u v
    · linarith [(c0.1 h.1).2.1, (c1.1 h.2).2.1, (c1.1 h.2).2.2]
    · linarith [(c0.1 h.1).2.1, (c2.1 h.2).2.1, (c2.1 h.2).1]
    · exact lt_asymm (c0.1 h.1).2.1 (c3.1 h.2).2.1
    · linarith [(c1.1 h.1).2.1, (c2.1 h.2).2.1, (c1.1 h.1).1]
    · exact lt_asymm (c1.1 h.1).2.1 (c3.1 h.2).2.2
    · exact lt_asymm (c2.1 h.1).2.1 (c3.1 h.2).1

theorem tiles_template (cl : Cls) (hcl : cl ≠ .bad) : Tiles K (template cl) (v0, v1, v2) := by
  cases cl
  · exact .refl _
  · exact tiles_red
  · exact tiles_blue1
  · exact tiles_blue2
  · exact tiles_green
  · exact absurd rfl hcl

theorem template_nondegenerate (cl : Cls) (T : RV × RV × RV) (hT : T ∈ template cl) :
    orient (K := K) T.1 T.2.1 (rvx T.2.2) (rvy T.2.2) ≠ 0 := by
  cases cl <;> simp only [template, List.mem_cons, List.not_mem_nil, or_false] at hT
  all_goals
    rcases hT with rfl | rfl | rfl | rfl <;> simp only [orient, rvx, rvy] <;> norm_num

end Templates

section Comb
variable {K : Type} [Field K]

/-- `Σ_k w_k · c(S_k)`: the value, at the point of `S` with barycentric weights `w`, of the affine function
    with value `c v` at vertex `v` (a coordinate, say) -/
def comb (c : Nat → K) : List Nat → List K → K
  | v :: S, x :: w => x * c v + comb c S w
  | _, _ => 0

theorem comb_set_vertex (c : Nat → K) (m : Nat) : ∀ (S : List Nat) (w : List K) (j : Nat),
    j < S.length → S.length = w.length →
    comb c (S.set j m) w = comb c S w + w.getD j 0 * (c m - c (S.getD j 0)) := by
  intro S
  induction S with
  | nil => intro w j hj; simp at hj
  | cons v S ih =>
    intro w j hj hl
    cases w with
    | nil => simp at hl
    | cons x w =>
      cases j with
      | zero => simp only [List.set_cons_zero, comb, List.getD_cons_zero]; ring
      | succ j =>
        simp only [List.set_cons_succ, comb, List.getD_cons_succ]
        rw [ih w j (by simpa using hj) (by simpa using hl)]
        ring

theorem comb_set_weight (c : Nat → K) (y : K) : ∀ (S : List Nat) (w : List K) (i : Nat),
    i < S.length → S.length = w.length →
    comb c S (w.set i y) = comb c S w + (y - w.getD i 0) * c (S.getD i 0) := by
  intro S
  induction S with
  | nil => intro w i hi; simp at hi
  | cons v S ih =>
    intro w i hi hl
    cases w with
    | nil => simp at hl
    | cons x w =>
      cases i with
      | zero => simp only [List.set_cons_zero, comb, List.getD_cons_zero]; ring
      | succ i =>
        simp only [List.set_cons_succ, comb, List.getD_cons_succ]
        rw [ih w i (by simpa using hi) (by simpa using hl)]
        ring

theorem comb_perm {L L' : List Nat} (hp : L.Perm L') : ∀ w : List K, w.length = L.length →
    ∃ w' : List K, w'.Perm w ∧ ∀ c : Nat → K, comb c L' w' = comb c L w := by
  induction hp with
  | nil => intro w _; exact ⟨w, List.Perm.refl _, fun _ => rfl⟩
  | cons x _ ih =>
    intro w hw
    cases w with
    | nil => simp at hw
    | cons y w0 =>
      obtain ⟨w0', hp0, hc0⟩ := ih w0 (by simpa using hw)
      exact ⟨y :: w0', List.Perm.cons y hp0, fun c => by simp only [comb]; rw [hc0 c]⟩
  | swap x y l =>
    intro w hw
    match w, hw with
    | a :: b :: w0, _ =>
      exact ⟨b :: a :: w0, List.Perm.swap _ _ _, fun c => by simp only [comb]; ring⟩
  | trans _ _ ih1 ih2 =>
    intro w hw
    obtain ⟨w1, hp1, hc1⟩ := ih1 w hw
    obtain ⟨w2, hp2, hc2⟩ := ih2 w1 (by rw [hp1.length_eq, hw]; exact (List.Perm.length_eq ‹_›))
    exact ⟨w2, hp2.trans hp1, fun c => by rw [hc2 c, hc1 c]⟩

theorem comb_congr (c c' : Nat → K) : ∀ (S : List Nat) (w : List K), (∀ v ∈ S, c v = c' v) →
    comb c S w = comb c' S w := by
  intro S
  induction S with
  | nil => intro w _; simp [comb]
  | cons v S ih =>
    intro w h
    cases w with
    | nil => simp [comb]
    | cons x w =>
      simp only [comb]
      rw [h v (by simp), ih w (fun u hu => h u (by simp [hu]))]

theorem sum_set (y : K) (w : List K) (i : Nat) (hi : i < w.length) :
    (w.set i y).sum = w.sum + (y - w.getD i 0) := by
  rw [List.sum_set', dif_pos hi, getD_eq_getElem w 0 hi]
  ring

/-- `tr` is a bisection tree of `S`: every node cuts the current simplex between two different positions, at a vertex
    where each affine function `c d` (a coordinate, say) takes the mean of its two end values -/
def Bisects (c : Nat → Nat → K) : List Nat → BTree → Prop
  | _, .leaf _ => True
  | S, .node i j m l r => i < S.length ∧ j < S.length ∧ i ≠ j
      ∧ (∀ d, 2 * c d m = c d (S.getD i 0) + c d (S.getD j 0)) ∧ Bisects c (S.set j m) l ∧ Bisects c (S.set i m) r

/-- leaf simplices paired with the number of the new cell they claim to be -/
def leafPairs : List Nat → BTree → List (List Nat × Nat)
  | S, .leaf c => [(S, c)]
  | S, .node i j m l r => leafPairs (S.set j m) l ++ leafPairs (S.set i m) r

theorem leafPairs_snd : ∀ (tr : BTree) (S : List Nat), (leafPairs S tr).map (·.2) = tr.leaves := by
  intro tr
  induction tr with
  | leaf c => intro S; rfl
  | node i j m l r ihl ihr => intro S; simp [leafPairs, BTree.leaves, ihl, ihr]

end Comb

section CombOrdered
variable {K : Type} [Field K] [LinearOrder K] [IsStrictOrderedRing K]

/-- One bisection step downwards, for every affine `c` at once (no geometry is involved): a point of `S` whose
    weight at `j` is at most that at `i` lies in the half `S[j := m]`, which keeps vertex `S[i]`. -/
theorem half_step (S : List Nat) (w : List K) (i j m : Nat) (hi : i < S.length) (hj : j < S.length) (hij : i ≠ j)
    (hl : S.length = w.length) (hw : ∀ x ∈ w, 0 ≤ x) (hle : w.getD j 0 ≤ w.getD i 0) :
    ∃ w' : List K, w'.length = w.length ∧ (∀ x ∈ w', 0 ≤ x) ∧ w'.sum = w.sum
      ∧ ∀ c : Nat → K, 2 * c m = c (S.getD i 0) + c (S.getD j 0) → comb c (S.set j m) w' = comb c S w := by
  have hwj : 0 ≤ w.getD j 0 := hw _ (getD_mem w 0 (hl ▸ hj))
  refine ⟨(w.set i (w.getD i 0 - w.getD j 0)).set j (2 * w.getD j 0), by simp, fun x hx => ?_, ?_, fun c hmid => ?_⟩
  · rcases List.mem_or_eq_of_mem_set hx with h | h
    · rcases List.mem_or_eq_of_mem_set h with h' | h'
      · exact hw x h'
      · rw [h']; exact sub_nonneg.2 hle
    · rw [h]; exact mul_nonneg zero_le_two hwj
  · rw [sum_set _ _ j (by simpa using hl ▸ hj), sum_set _ _ i (hl ▸ hi), getD_set_ne _ i j _ hij]
    ring
  · rw [comb_set_vertex c m S _ j hj (by simp [hl]), comb_set_weight c _ S _ j hj (by simp [hl]),
      comb_set_weight c _ S w i hi hl, getD_set_eq _ j _ (by simp; omega), getD_set_ne _ i j _ hij]
    linear_combination (w.getD j 0) * hmid

/-- … and upwards: every point of the half `S[j := m]` is a point of `S` -/
theorem parent_step (S : List Nat) (w : List K) (i j m : Nat) (hi : i < S.length) (hj : j < S.length) (hij : i ≠ j)
    (hl : S.length = w.length) (hw : ∀ x ∈ w, 0 ≤ x) :
    ∃ w' : List K, w'.length = w.length ∧ (∀ x ∈ w', 0 ≤ x) ∧ w'.sum = w.sum
      ∧ ∀ c : Nat → K, 2 * c m = c (S.getD i 0) + c (S.getD j 0) → comb c S w' = comb c (S.set j m) w := by
  have hwj : 0 ≤ w.getD j 0 := hw _ (getD_mem w 0 (hl ▸ hj))
  have hwi : 0 ≤ w.getD i 0 := hw _ (getD_mem w 0 (hl ▸ hi))
  refine ⟨(w.set i (w.getD i 0 + w.getD j 0 / 2)).set j (w.getD j 0 / 2), by simp, fun x hx => ?_, ?_,
    fun c hmid => ?_⟩
  · rcases List.mem_or_eq_of_mem_set hx with h | h
    · rcases List.mem_or_eq_of_mem_set h with h' | h'
      · exact hw x h'
      · rw [h']; exact add_nonneg hwi (div_nonneg hwj zero_le_two)
    · rw [h]; exact div_nonneg hwj zero_le_two
  · rw [sum_set _ _ j (by simpa using hl ▸ hj), sum_set _ _ i (hl ▸ hi), getD_set_ne _ i j _ hij]
    ring
  · rw [comb_set_vertex c m S _ j hj hl, comb_set_weight c _ S _ j hj (by simp [hl]),
      comb_set_weight c _ S w i hi hl, getD_set_ne _ i j _ hij]
    linear_combination (- w.getD j 0 / 2) * hmid

/-- every point of the root simplex lies in a leaf simplex: the new weights serve all the affine functions `c d`
    at once -/
theorem tree_cover (c : Nat → Nat → K) : ∀ (tr : BTree) (S : List Nat), Bisects c S tr → ∀ (w : List K),
    S.length = w.length → (∀ x ∈ w, 0 ≤ x) →
    ∃ q ∈ leafPairs S tr, ∃ w' : List K, w'.length = w.length ∧ (∀ x ∈ w', 0 ≤ x)
      ∧ w'.sum = w.sum ∧ ∀ d, comb (c d) q.1 w' = comb (c d) S w := by
  intro tr
  induction tr with
  | leaf cidx =>
    intro S _ w _ hw
    exact ⟨(S, cidx), List.mem_singleton_self _, w, rfl, hw, rfl, fun _ => rfl⟩
  | node i j m l r ihl ihr =>
    intro S ⟨hi, hj, hij, hm, hbl, hbr⟩ w hl hw
    rcases le_total (w.getD j 0) (w.getD i 0) with hle | hle
    · obtain ⟨w1, hl1, hn1, hs1, hc1⟩ := half_step S w i j m hi hj hij hl hw hle
      obtain ⟨q, hq, w', hlen, hnn, hsum, hc⟩ := ihl (S.set j m) hbl w1 (by simp [hl1, hl]) hn1
      exact ⟨q, List.mem_append_left _ hq, w', hlen.trans hl1, hnn, hsum.trans hs1,
        fun d => (hc d).trans (hc1 _ (hm d))⟩
    · obtain ⟨w1, hl1, hn1, hs1, hc1⟩ := half_step S w j i m hj hi hij.symm hl hw hle
      obtain ⟨q, hq, w', hlen, hnn, hsum, hc⟩ := ihr (S.set i m) hbr w1 (by simp [hl1, hl]) hn1
      exact ⟨q, List.mem_append_right _ hq, w', hlen.trans hl1, hnn, hsum.trans hs1,
        fun d => (hc d).trans (hc1 _ ((hm d).trans (add_comm _ _)))⟩

theorem tree_nested (c : Nat → Nat → K) : ∀ (tr : BTree) (S : List Nat), Bisects c S tr → ∀ q ∈ leafPairs S tr,
    ∀ (w' : List K), S.length = w'.length → (∀ x ∈ w', 0 ≤ x) →
      ∃ w : List K, w.length = w'.length ∧ (∀ x ∈ w, 0 ≤ x) ∧ w.sum = w'.sum
        ∧ ∀ d, comb (c d) S w = comb (c d) q.1 w' := by
  intro tr
  induction tr with
  | leaf cidx =>
    intro S _ q hq w' _ hw
    rw [List.mem_singleton.1 hq]
    exact ⟨w', rfl, hw, rfl, fun _ => rfl⟩
  | node i j m l r ihl ihr =>
    intro S ⟨hi, hj, hij, hm, hbl, hbr⟩ q hq w' hl' hw'
    rcases List.mem_append.1 hq with hq | hq
    · obtain ⟨w1, hl1, hn1, hs1, hc1⟩ := ihl (S.set j m) hbl q hq w' (by simpa using hl') hw'
      obtain ⟨w, hl0, hn, hs, hc⟩ := parent_step S w1 i j m hi hj hij (hl'.trans hl1.symm) hn1
      exact ⟨w, hl0.trans hl1, hn, hs.trans hs1, fun d => (hc _ (hm d)).trans (hc1 d)⟩
    · obtain ⟨w1, hl1, hn1, hs1, hc1⟩ := ihr (S.set i m) hbr q hq w' (by simpa using hl') hw'
      obtain ⟨w, hl0, hn, hs, hc⟩ := parent_step S w1 j i m hj hi hij.symm (hl'.trans hl1.symm) hn1
      exact ⟨w, hl0.trans hl1, hn, hs.trans hs1, fun d => (hc _ ((hm d).trans (add_comm _ _))).trans (hc1 d)⟩

end CombOrdered

section Vol
variable {K : Type} [Field K]

def mid3 (p q : K × K × K) : K × K × K := ((p.1 + q.1) / 2, (p.2.1 + q.2.1) / 2, (p.2.2 + q.2.2) / 2)

def det3 (u v w : K × K × K) : K :=
  u.1 * (v.2.1 * w.2.2 - v.2.2 * w.2.1) - u.2.1 * (v.1 * w.2.2 - v.2.2 * w.1)
    + u.2.2 * (v.1 * w.2.1 - v.2.1 * w.1)

def sub3 (p q : K × K × K) : K × K × K := (p.1 - q.1, p.2.1 - q.2.1, p.2.2 - q.2.2)

/-- six times the signed volume of the ordered tetrahedron `S` -/
def vol3 (pos : Nat → K × K × K) : List Nat → K
  | [a, b, c, d] => det3 (sub3 (pos b) (pos a)) (sub3 (pos c) (pos a)) (sub3 (pos d) (pos a))
  | _ => 0

def pos3 (X Y Z : Nat → K) (v : Nat) : K × K × K := (X v, Y v, Z v)

theorem mid3_comm (p q : K × K × K) : mid3 p q = mid3 q p := by
  simp only [mid3, Prod.mk.injEq]; refine ⟨?_, ?_, ?_⟩ <;> ring

variable [CharZero K]

theorem vol3_half (pos : Nat → K × K × K) (S : List Nat) (hS : S.length = 4) (i j m : Nat)
    (hi : i < S.length) (hj : j < S.length) (hij : i ≠ j)
    (hm : pos m = mid3 (pos (S.getD i 0)) (pos (S.getD j 0))) :
    2 * vol3 pos (S.set j m) = vol3 pos S := by
  match S, hS with
  | [a, b, c, d], _ =>
    simp only [List.length_cons, List.length_nil, Nat.zero_add, Nat.reduceAdd] at hi hj
    interval_cases i <;> interval_cases j <;>
      simp only [List.getD_cons_zero, List.getD_cons_succ, List.set_cons_zero, List.set_cons_succ, vol3,
        ne_eq, not_true_eq_false] at hm hij ⊢ <;>
      (rw [hm]; simp only [mid3, det3, sub3]; ring)

/-- a leaf at depth `d` has `2^-(d - d0)` of the signed volume of the root at depth `d0` (same orientation, and
    degenerate only if the root is), and the leaf volumes add up to that of the root -/
theorem tree_volume (c : Nat → Nat → K) (pos : Nat → K × K × K) (hpos : ∀ v, pos v = (c 0 v, c 1 v, c 2 v)) :
    ∀ (tr : BTree) (S : List Nat) (d0 : Nat), S.length = 4 → Bisects c S tr →
    (∀ L d, (L, d) ∈ tr.leafSimplices S d0 → 2 ^ d * vol3 pos L = 2 ^ d0 * vol3 pos S)
    ∧ ((tr.leafSimplices S d0).map (fun q => vol3 pos q.1)).sum = vol3 pos S := by
  intro tr
  induction tr with
  | leaf cidx =>
    intro S d0 _ _
    simp [BTree.leafSimplices]
  | node i j m l r ihl ihr =>
    intro S d0 hS ⟨hi, hj, hij, h, hbl, hbr⟩
    have hm : pos m = mid3 (pos (S.getD i 0)) (pos (S.getD j 0)) := by
      simp only [hpos, mid3, Prod.mk.injEq]
      exact ⟨by linear_combination h 0 / 2, by linear_combination h 1 / 2, by linear_combination h 2 / 2⟩
    have h1 := vol3_half pos S hS i j m hi hj hij hm
    have h2 := vol3_half pos S hS j i m hj hi hij.symm (hm.trans (mid3_comm _ _))
    obtain ⟨vl, sl⟩ := ihl (S.set j m) (d0 + 1) (by simpa using hS) hbl
    obtain ⟨vr, sr⟩ := ihr (S.set i m) (d0 + 1) (by simpa using hS) hbr
    simp only [BTree.leafSimplices, List.mem_append, List.map_append, List.sum_append]
    refine ⟨fun L d hmem => ?_, by rw [sl, sr]; linear_combination (h1 + h2) / 2⟩
    rcases hmem with hmem | hmem
    · rw [vl L d hmem, pow_succ, mul_assoc, h1]
    · rw [vr L d hmem, pow_succ, mul_assoc, h2]

end Vol

def coordFn (pos : List Pt) (d : Nat) (v : Nat) : Rat := (pos.getD v []).getD d 0

theorem isMid_sound (pos : List Pt) (a b m : Nat) (h : isMid pos a b m = true) (d : Nat) :
    2 * coordFn pos d m = coordFn pos d a + coordFn pos d b := by
  unfold isMid at h
  split at h
  · rename_i pa pb pm ha hb hm
    simp only [Bool.and_eq_true, beq_iff_eq, List.all_eq_true] at h
    obtain ⟨⟨hla, hlb⟩, hall⟩ := h
    simp only [coordFn, List.getD_eq_getElem?_getD, ha, hb, hm, Option.getD_some]
    by_cases hd : d < pm.length
    · have := hall _ (List.getElem_mem (l := List.zip pm (List.zip pa pb)) (n := d) (by simp; omega))
      simpa [hd, show d < pa.length by omega, show d < pb.length by omega] using this
    · simp [show pm.length ≤ d by omega, show pa.length ≤ d by omega, show pb.length ≤ d by omega]
  · exact absurd h (by simp)
theorem checkTree_sound (pos : List Pt) (newCells : List (List Nat)) : ∀ (tr : BTree) (S : List Nat),
    checkTree pos newCells S tr = true →
    Bisects (coordFn pos) S tr ∧ ∀ q ∈ leafPairs S tr, sortCol q.1 = sortCol (newCells.getD q.2 []) := by
  intro tr
  induction tr with
  | leaf c =>
    intro S h
    simp only [checkTree, beq_iff_eq] at h
    exact ⟨trivial, by simp [leafPairs, h]⟩
  | node i j m l r ihl ihr =>
    intro S h
    simp only [checkTree, Bool.and_eq_true, decide_eq_true_eq, bne_iff_ne, ne_eq] at h
    obtain ⟨⟨⟨⟨⟨hi, hj⟩, hij⟩, hmid⟩, hl⟩, hr⟩ := h
    obtain ⟨b1, p1⟩ := ihl _ hl
    obtain ⟨b2, p2⟩ := ihr _ hr
    exact ⟨⟨hi, hj, hij, isMid_sound pos _ _ m hmid, b1, b2⟩,
      fun q hq => (List.mem_append.1 hq).elim (p1 q) (p2 q)⟩

/-- what the clauses of an accepted certificate say (of clause 0, the check that every new point has
    `dim` coordinates is left out) -/
structure Accepted (dim : Nat) (old new : SMesh) (forest : List BTree) (marked : List Nat) : Prop where
  len : forest.length = old.t.length
  oldShape : ∀ S ∈ old.t, S.length = dim + 1 ∧ ∀ v ∈ S, v < old.p.length
  pLen : old.p.length ≤ new.p.length
  newShape : ∀ S ∈ new.t, S.length = dim + 1 ∧ ∀ v ∈ S, v < new.p.length
  oldVerts : ∀ i, i < old.p.length → new.p[i]? = old.p[i]?
  trees : ∀ k, k < old.t.length → checkTree new.p new.t (old.t.getD k []) (forest.getD k (.leaf 0)) = true
  leaves : (forest.flatMap BTree.leaves).Perm (List.range new.t.length)
  marked : ∀ k ∈ marked, (forest.getD k (.leaf 0)).isNode = true
  exit : ∀ L ∈ new.t, ∀ e ∈ forestEdges old.t forest, ¬ (e.1 ∈ L ∧ e.2.1 ∈ L)
  mids : ∀ e ∈ forestEdges old.t forest, ∀ e' ∈ forestEdges old.t forest,
    ((e.1 = e'.1 ∧ e.2.1 = e'.2.1) ∨ (e.1 = e'.2.1 ∧ e.2.1 = e'.1)) ↔ e.2.2 = e'.2.2

theorem Accepted.tree {dim : Nat} {old new : SMesh} {forest : List BTree} {marked : List Nat}
    (acc : Accepted dim old new forest marked) {k : Nat} (hk : k < old.t.length) :
    (old.t.getD k []).length = dim + 1
      ∧ Bisects (coordFn new.p) (old.t.getD k []) (forest.getD k (.leaf 0))
      ∧ ∀ q ∈ leafPairs (old.t.getD k []) (forest.getD k (.leaf 0)),
          sortCol q.1 = sortCol (new.t.getD q.2 []) ∧ q.2 < new.t.length := by
  obtain ⟨hb, hleaf⟩ := checkTree_sound new.p new.t _ _ (acc.trees k hk)
  refine ⟨(acc.oldShape _ (getD_mem old.t [] hk)).1, hb, fun q hq => ⟨hleaf q hq, ?_⟩⟩
  have : q.2 ∈ forest.flatMap BTree.leaves :=
    List.mem_flatMap.2 ⟨_, getD_mem forest _ (acc.len ▸ hk),
      leafPairs_snd _ (old.t.getD k []) ▸ List.mem_map.2 ⟨q, hq, rfl⟩⟩
  exact List.mem_range.1 (acc.leaves.mem_iff.1 this)

end Skv.RA
