import SkfemVerif.Lemmas.BC
import Mathlib.Tactic.LinearCombination
/-
The multipoint-constraint reduction `mpc` (Model/BC.lean).  A row of `A z` for the expanded vector
`z = mpcExpand … w` is split along `(U ++ M) ++ S` (`sum_range_split`) and written in position
coordinates, where `z` is `w q` on `U ++ M` and `T w_M + g` on `S`; what remains is the identity
`mpc_algebra`: `[[A_UU, A_UM + A_US T], [A_MU, A_MM + A_MS T]] w = [b_U - A_US g, …]` row by row.
-/
namespace Skv

section Mpc
variable {K : Type} [CommRing K]

theorem sum_map_eq_range_getD (l : List Nat) (f : Nat → K) :
    (l.map f).sum = ((List.range l.length).map (fun q => f (l.getD q 0))).sum :=
  congrArg List.sum (map_getD_range l 0 f).symm

theorem mpcExpand_UM (U M S : List Nat) (T : Nat → Nat → K) (g w : Nat → K)
    (hnd : (U ++ M).Nodup) (q : Nat) (hq : q < (U ++ M).length) :
    mpcExpand U M S T g w ((U ++ M).getD q 0) = w q := by
  rw [getD_eq_getElem _ 0 hq]
  unfold mpcExpand
  rw [if_pos (List.contains_iff_mem.2 (List.getElem_mem hq)), hnd.idxOf_getElem q hq]

theorem mpcExpand_S (U M S : List Nat) (T : Nat → Nat → K) (g w : Nat → K)
    (hS : S.Nodup) (hdisj : ∀ i, i ∈ U ++ M → i ∉ S) (s : Nat) (hs : s < S.length) :
    mpcExpand U M S T g w (S[s])
      = ((List.range M.length).map (fun j => T s j * w (U.length + j))).sum + g s := by
  unfold mpcExpand
  have hmem : S[s] ∈ S := List.getElem_mem hs
  have hn : ¬ ((U ++ M).contains S[s] = true) := by
    rw [List.contains_iff_mem]
    exact fun h => hdisj _ h hmem
  rw [if_neg hn, if_pos (List.contains_iff_mem.2 hmem), hS.idxOf_getElem s hs]

/-- in position coordinates: `a q = A r (U++M)[q]`, `c s = A r S[s]` -/
theorem mpc_algebra (nU nM nS : Nat) (a c : Nat → K) (T : Nat → Nat → K) (g w : Nat → K) (br : K)
    (h : ∑ q ∈ Finset.range (nU + nM),
          (a q + (if q < nU then 0 else ∑ s ∈ Finset.range nS, c s * T s (q - nU))) * w q
        = br - ∑ s ∈ Finset.range nS, c s * g s) :
    ∑ q ∈ Finset.range (nU + nM), a q * w q
      + ∑ s ∈ Finset.range nS, c s * (∑ j ∈ Finset.range nM, T s j * w (nU + j) + g s) = br := by
  -- the `T` part of the reduced matrix acts on the master block `q = nU + j` only
  have e1 : ∑ q ∈ Finset.range (nU + nM),
        (if q < nU then 0 else ∑ s ∈ Finset.range nS, c s * T s (q - nU)) * w q
      = ∑ s ∈ Finset.range nS, c s * ∑ j ∈ Finset.range nM, T s j * w (nU + j) := by
    rw [Finset.sum_range_add, Finset.sum_eq_zero (fun q hq => by
      rw [if_pos (Finset.mem_range.1 hq), zero_mul]), zero_add]
    simp only [Finset.mul_sum]
    rw [Finset.sum_comm]
    refine Finset.sum_congr rfl (fun j _ => ?_)
    rw [if_neg (by omega), Nat.add_sub_cancel_left, Finset.sum_mul]
    exact Finset.sum_congr rfl (fun s _ => mul_assoc _ _ _)
  simp only [add_mul, mul_add, Finset.sum_add_distrib] at h ⊢
  rw [e1] at h
  linear_combination h

/-- any vector `z` that is `w` on `U ++ M` and `T w_M + g` on `S`, for a solution `w` of the reduced system,
    satisfies the original equation of row `(U ++ M)[p]` -/
theorem mpc_row (n : Nat) (A : Nat → Nat → K) (b : Nat → K) (U M S : List Nat)
    (T : Nat → Nat → K) (g w z : Nat → K) (hp : (U ++ M ++ S).Perm (List.range n))
    (hUM : ∀ q < (U ++ M).length, z ((U ++ M).getD q 0) = w q)
    (hS : ∀ s < S.length,
      z (S.getD s 0) = ∑ j ∈ Finset.range M.length, T s j * w (U.length + j) + g s)
    (p : Nat)
    (hsol : ((List.range (U ++ M).length).map (fun q => mpcMat A U M S T p q * w q)).sum
      = mpcRhs A b U M S g p) :
    matVec n A z ((U ++ M).getD p 0) = b ((U ++ M).getD p 0) := by
  unfold matVec
  rw [sum_range_split n (U ++ M) S hp, sum_map_eq_range_getD (U ++ M), sum_map_eq_range_getD S,
    sum_map_range, sum_map_range,
    Finset.sum_congr rfl fun q hq => congrArg (_ * ·) (hUM q (Finset.mem_range.1 hq)),
    Finset.sum_congr rfl fun s hs => congrArg (_ * ·) (hS s (Finset.mem_range.1 hs))]
  unfold mpcMat mpcRhs at hsol
  simp only [sum_map_range] at hsol
  rw [List.length_append] at hsol ⊢
  exact mpc_algebra U.length M.length S.length _ _ T g w _ hsol

end Mpc

end Skv
