import SkfemVerif.Lemmas.RefineUniform
import Mathlib.Algebra.Order.Field.Basic
/-
Exact rational geometry of the refinement templates, for arbitrary rational vertex coordinates of the parent; only
the tables `refOk_*`, `quadT_ref`, `hexT_ref` speak of the reference cell (`restrict_of_ref` needs them).  The point
named by a word is a vertex of the parent or the mean of some: what is linear (half-spaces, the position under a
multilinear map) follows from `aff_meanPts`, what is not (measures, corner cross products) is a polynomial identity
once the midpoints are written out (`meanPts_pair`, `meanPts_four2`).
-/
namespace Skv.Refine

abbrev co (a : Pt) (c : Nat) : Rat := a.getD c 0

/-- signed length / twice the signed area / six times the signed volume of a simplex -/
def simplexMeasure : Kind → List Pt → Rat
  | .line, X => co (X.getD 1 []) 0 - co (X.getD 0 []) 0
  | .tri, X =>
    let a := X.getD 0 []; let b := X.getD 1 []; let c := X.getD 2 []
    (co b 0 - co a 0) * (co c 1 - co a 1) - (co b 1 - co a 1) * (co c 0 - co a 0)
  | .tet, X =>
    let a := X.getD 0 []; let b := X.getD 1 []; let c := X.getD 2 []; let d := X.getD 3 []
    (co b 0 - co a 0) * ((co c 1 - co a 1) * (co d 2 - co a 2) - (co c 2 - co a 2) * (co d 1 - co a 1))
    - (co b 1 - co a 1) * ((co c 0 - co a 0) * (co d 2 - co a 2) - (co c 2 - co a 2) * (co d 0 - co a 0))
    + (co b 2 - co a 2) * ((co c 0 - co a 0) * (co d 1 - co a 1) - (co c 1 - co a 1) * (co d 0 - co a 0))
  | _, _ => 0

/-- positions of the vertices of a child -/
def childPts (kd : Kind) (X : List Pt) (w : List Src) : List Pt := w.map (wordPt kd X)

/-- signs of the children of a tetrahedron relative to the parent: corners, then the inner
    children for the three diagonal choices -/
def tetSigns : List (List Rat) := [[1, -1, -1, -1], [1, -1, 1, -1], [1, 1, 1, 1], [-1, -1, -1, -1]]

/-- an affine function `α · P + γ` -/
def aff (α : List Rat) (γ : Rat) (P : Pt) : Rat := (List.zipWith (· * ·) α P).sum + γ

theorem dot_addPt (α a b : List Rat) (h : a.length = b.length) :
    (List.zipWith (· * ·) α (addPt a b)).sum
      = (List.zipWith (· * ·) α a).sum + (List.zipWith (· * ·) α b).sum := by
  induction α generalizing a b with
  | nil => simp
  | cons x xs ih =>
    cases a with
    | nil => cases b with
      | nil => simp [addPt]
      | cons _ _ => simp at h
    | cons y ys =>
      cases b with
      | nil => simp at h
      | cons z zs =>
        have := ih ys zs (by simpa using h)
        simp only [addPt, List.zipWith_cons_cons, List.sum_cons] at this ⊢
        rw [this]; ring

theorem dot_scalePt (α a : List Rat) (s : Rat) :
    (List.zipWith (· * ·) α (scalePt s a)).sum = s * (List.zipWith (· * ·) α a).sum := by
  induction α generalizing a with
  | nil => simp
  | cons x xs ih =>
    cases a with
    | nil => simp [scalePt]
    | cons y ys =>
      have := ih ys
      simp only [scalePt, List.map_cons, List.zipWith_cons_cons, List.sum_cons] at this ⊢
      rw [this]; ring

theorem length_sumPts {d : Nat} {l : List Pt} (hl : ∀ P ∈ l, P.length = d) : (sumPts d l).length = d := by
  induction l with
  | nil => simp [sumPts]
  | cons P l ih =>
    have := ih (fun Q hQ => hl Q (List.mem_cons_of_mem _ hQ))
    simp only [sumPts, List.foldr_cons, addPt, List.length_zipWith] at this ⊢
    rw [this, hl P (List.mem_cons_self ..)]; simp

theorem aff_zeros (x : List Rat) (m : Nat) : aff x 0 (List.replicate m 0) = 0 := by
  induction x generalizing m with
  | nil => simp [aff]
  | cons a xs ih => cases m with
    | zero => simp [aff]
    | succ m => simpa [aff, List.replicate_succ] using ih m

theorem dot_sumPts {d : Nat} (α : List Rat) {l : List Pt} (hl : ∀ P ∈ l, P.length = d) :
    (List.zipWith (· * ·) α (sumPts d l)).sum = (l.map (fun P => (List.zipWith (· * ·) α P).sum)).sum := by
  induction l with
  | nil => simpa [aff, sumPts] using aff_zeros α d
  | cons P l ih =>
    have hl' : ∀ Q ∈ l, Q.length = d := fun Q hQ => hl Q (List.mem_cons_of_mem _ hQ)
    have e : sumPts d (P :: l) = addPt P (sumPts d l) := rfl
    rw [e, dot_addPt _ _ _ (by rw [length_sumPts hl', hl P (List.mem_cons_self ..)]), ih hl']
    simp

theorem aff_meanPts {d : Nat} (α : List Rat) (γ : Rat) {l : List Pt} (hl : ∀ P ∈ l, P.length = d)
    (hne : l ≠ []) : aff α γ (meanPts d l) = (l.map (aff α γ)).sum / l.length := by
  have hn : (l.length : Rat) ≠ 0 := by
    exact_mod_cast (List.length_pos_iff.mpr hne).ne'
  have hs : (l.map (aff α γ)).sum
      = (l.map (fun P => (List.zipWith (· * ·) α P).sum)).sum + l.length * γ := by
    clear hl hne hn
    induction l with
    | nil => simp
    | cons P l ih => simp only [List.map_cons, List.sum_cons, ih, aff, List.length_cons]; push_cast; ring
  rw [hs, aff, meanPts, dot_scalePt, dot_sumPts α hl, add_div, mul_div_cancel_left₀ _ hn]
  ring

theorem aff_meanPts_nonneg {d : Nat} {α : List Rat} {γ : Rat} {l : List Pt}
    (hl : ∀ P ∈ l, P.length = d ∧ 0 ≤ aff α γ P) (hne : l ≠ []) : 0 ≤ aff α γ (meanPts d l) := by
  rw [aff_meanPts α γ (fun P hP => (hl P hP).1) hne]
  refine div_nonneg ?_ (Nat.cast_nonneg _)
  clear hne
  induction l with
  | nil => simp
  | cons P l ih =>
    simp only [List.map_cons, List.sum_cons]
    exact add_nonneg (hl P (List.mem_cons_self ..)).2 (ih fun Q hQ => hl Q (List.mem_cons_of_mem _ hQ))

theorem aff_comm (a b : List Rat) : aff a 0 b = aff b 0 a := by
  simp only [aff]
  rw [List.zipWith_comm]
  simp only [mul_comm]

theorem aff_unit (x : List Rat) (k m : Nat) :
    aff x 0 (List.replicate k 0 ++ 1 :: List.replicate m 0) = x.getD k 0 := by
  induction k generalizing x with
  | zero => cases x with
    | nil => simp [aff]
    | cons a xs => simpa [aff] using aff_zeros xs m
  | succ k ih => cases x with
    | nil => simp [aff]
    | cons a xs => simpa [aff, List.replicate_succ] using ih xs

theorem co_meanPts {d : Nat} {l : List Pt} (hl : ∀ P ∈ l, P.length = d) (hne : l ≠ []) (c : Nat) :
    co (meanPts d l) c = (l.map (fun P => co P c)).sum / l.length := by
  have e : ∀ P : Pt, co P c = aff (List.replicate c 0 ++ [1]) 0 P := fun P => by
    rw [aff_comm]; exact (aff_unit P c 0).symm
  rw [e, aff_meanPts _ _ hl hne]
  congr 2
  exact List.map_congr_left fun P _ => (e P).symm

theorem halfspace_word (kd : Kind) (X : List Pt) (hX : X.map List.length = List.replicate kd.nverts kd.dim)
    (α : List Rat) (γ : Rat) (h : ∀ P ∈ X, 0 ≤ aff α γ P)
    (w : Src) (hw : w.ok kd = true) : 0 ≤ aff α γ (wordPt kd X w) := by
  obtain ⟨hX, hd⟩ := of_map_length hX
  rcases wordPt_cases hw with ⟨i, hi, rfl⟩ | ⟨E, _, hne, hlt, e⟩
  · exact h _ (getD_mem X [] (hX ▸ hi))
  · rw [e X hX]
    refine aff_meanPts_nonneg (fun P hP => ?_) (by simpa using hne)
    obtain ⟨i, hi, rfl⟩ := List.mem_map.mp hP
    have := getD_mem X [] (hX ▸ hlt i hi)
    exact ⟨hd _ this, h _ this⟩

theorem halfspace_children (kd : Kind) (X : List Pt) (hX : X.map List.length = List.replicate kd.nverts kd.dim)
    (α : List Rat) (γ : Rat) (h : ∀ P ∈ X, 0 ≤ aff α γ P)
    (T : Template) (hT : ∀ w ∈ T, ∀ x ∈ w, x.ok kd = true) :
    ∀ w ∈ T, ∀ Q ∈ childPts kd X w, 0 ≤ aff α γ Q := by
  intro w hw Q hQ
  obtain ⟨x, hx, rfl⟩ := List.mem_map.mp hQ
  exact halfspace_word kd X hX α γ h x (hT w hw x hx)

/-- multilinear shape function of the vertex with reference coordinates `r` at `ξ` -/
def shape : List Rat → List Rat → Rat
  | r :: rs, x :: xs => (r * x + (1 - r) * (1 - x)) * shape rs xs
  | _, _ => 1

/-- the bi/trilinear map of a cell with vertex positions `X`, coordinate `c`, at `ξ` -/
def multilin (refP : List (List Rat)) (X : List Pt) (c : Nat) (ξ : List Rat) : Rat :=
  ((refP.zip X).map (fun rx => shape rx.1 ξ * co rx.2 c)).sum

/-- the sub-box of child `i`, which sits at the parent's vertex `i` with reference coordinates `r` -/
def subBox (r ξ : List Rat) : List Rat := List.zipWith (fun a x => (x + a) / 2) r ξ

/-- multilinear interpolation at `ξ` of the values `v` given at the reference vertices -/
def multilinInterp (refP : List (List Rat)) (v : List Rat) (ξ : List Rat) : Rat :=
  aff v 0 (refP.map (fun r => shape r ξ))

theorem multilin_eq_multilinInterp (refP : List (List Rat)) (X : List Pt) (c : Nat) (ξ : List Rat) :
    multilin refP X c ξ = multilinInterp refP (X.map (fun P => co P c)) ξ := by
  rw [multilinInterp, aff_comm]
  simp only [multilin, aff, add_zero, List.zipWith_map, List.zip_eq_zipWith, List.map_zipWith]

/-- what makes the multilinear map of a cell send the reference position of every word to the word's position
    (`multilin_wordPt`): the shape functions are a nodal basis, and at the centroid of an entity they take the
    means of their values at its vertices -/
structure RefOk (kd : Kind) (refP : List (List Rat)) : Prop where
  len : refP.length = kd.nverts
  dim : ∀ r ∈ refP, r.length = kd.dim
  nodal : ∀ k, k < kd.nverts → refP.map (fun r => shape r (refP.getD k []))
    = List.replicate k 0 ++ 1 :: List.replicate (kd.nverts - 1 - k) 0
  centroid : ∀ E ∈ List.range kd.nverts :: (kd.edges ++ kd.facets),
    refP.map (fun r => shape r (meanPts kd.dim (E.map (fun k => refP.getD k []))))
      = meanPts kd.nverts (E.map (fun k => refP.map (fun r => shape r (refP.getD k []))))

theorem refOk_quad : RefOk .quad quadRefP := ⟨rfl, by decide, by decide +kernel, by decide +kernel⟩
theorem refOk_hex : RefOk .hex hexRefP := ⟨rfl, by decide, by decide +kernel, by decide +kernel⟩

theorem multilin_wordPt {kd : Kind} {refP : List (List Rat)} (href : RefOk kd refP) (X : List Pt)
    (hX : X.map List.length = List.replicate kd.nverts kd.dim) (c : Nat) (w : Src) (hw : w.ok kd = true) :
    co (wordPt kd X w) c = multilin refP X c (wordPt kd refP w) := by
  obtain ⟨hX, hd⟩ := of_map_length hX
  have nodal : ∀ k, k < kd.nverts → multilin refP X c (refP.getD k []) = co (X.getD k []) c := by
    intro k hk
    rw [multilin_eq_multilinInterp, multilinInterp, href.nodal k hk, aff_unit, getD_map_of_lt _ _ k 0 [] (hX ▸ hk)]
  rcases wordPt_cases hw with ⟨i, hi, rfl⟩ | ⟨E, hE, hne, hlt, e⟩
  · exact (nodal i hi).symm
  · rw [e X hX, e refP href.len, multilin_eq_multilinInterp, multilinInterp, href.centroid E hE,
      aff_meanPts _ _ (by simp [href.len]) (by simpa using hne),
      co_meanPts (fun P hP => by
        obtain ⟨k, hk, rfl⟩ := List.mem_map.mp hP
        exact hd _ (getD_mem X [] (hX ▸ hlt k hk))) (by simpa using hne)]
    simp only [List.map_map, List.length_map]
    congr 2
    refine List.map_congr_left fun k hk => ?_
    simp only [Function.comp_def, ← nodal k (hlt k hk), multilin_eq_multilinInterp, multilinInterp]

/-- interpolating the values of a trilinear function at the corners of a sub-box reproduces it on the sub-box -/
theorem multilinInterp_subBox_hex (v0 v1 v2 v3 v4 v5 v6 v7 r0 r1 r2 ξ η ζ : Rat) :
    multilinInterp hexRefP (hexRefP.map (fun r' => multilinInterp hexRefP [v0, v1, v2, v3, v4, v5, v6, v7] (subBox [r0, r1, r2] r')))
        [ξ, η, ζ]
      = multilinInterp hexRefP [v0, v1, v2, v3, v4, v5, v6, v7] (subBox [r0, r1, r2] [ξ, η, ζ]) := by
  simp only [multilinInterp, aff, hexRefP, subBox, shape, List.map_cons, List.map_nil, List.sum_cons, List.sum_nil,
    List.zipWith_cons_cons, List.zipWith_nil_right]
  ring

theorem multilinInterp_subBox_quad (v0 v1 v2 v3 r0 r1 ξ η : Rat) :
    multilinInterp quadRefP (quadRefP.map (fun r' => multilinInterp quadRefP [v0, v1, v2, v3] (subBox [r0, r1] r'))) [ξ, η]
      = multilinInterp quadRefP [v0, v1, v2, v3] (subBox [r0, r1] [ξ, η]) := by
  simp only [multilinInterp, aff, quadRefP, subBox, shape, List.map_cons, List.map_nil, List.sum_cons, List.sum_nil,
    List.zipWith_cons_cons, List.zipWith_nil_right]
  ring

/-- the children of the reference cell are its quarters / octants -/
theorem quadT_ref : quadT.map (childPts .quad quadRefP) = quadRefP.map (fun r => quadRefP.map (subBox r)) := by
  decide +kernel

theorem hexT_ref : hexT.map (childPts .hex hexRefP) = hexRefP.map (fun r => hexRefP.map (subBox r)) := by
  decide +kernel

/-- the multilinear map of child `i` is the parent's map restricted to sub-box `i`, the values at the child's
    vertices being the parent's map at the corners of the sub-box (`multilin_wordPt`) -/
theorem restrict_of_ref {kd : Kind} {refP : List (List Rat)} (href : RefOk kd refP) {T : Template}
    (hT : T.map (childPts kd refP) = refP.map (fun r => refP.map (subBox r)))
    (hok : ∀ w ∈ T, ∀ x ∈ w, x.ok kd = true) (X : List Pt)
    (hX : X.map List.length = List.replicate kd.nverts kd.dim) (c : Nat) (ξ : List Rat)
    (h3 : ∀ r ∈ refP, multilinInterp refP (refP.map (fun r' => multilinInterp refP (X.map (fun P => co P c)) (subBox r r'))) ξ
      = multilinInterp refP (X.map (fun P => co P c)) (subBox r ξ)) :
    T.map (fun w => multilin refP (childPts kd X w) c ξ)
      = refP.map (fun r => multilin refP X c (subBox r ξ)) := by
  have h1 : T.map (fun w => multilin refP (childPts kd X w) c ξ)
      = (T.map (childPts kd refP)).map fun Y => multilinInterp refP (Y.map (multilin refP X c)) ξ := by
    rw [List.map_map]
    refine List.map_congr_left fun w hw => ?_
    rw [multilin_eq_multilinInterp]
    simp only [Function.comp_def, childPts, List.map_map]
    congr 1
    exact List.map_congr_left fun x hx => multilin_wordPt href X hX c x (hok w hw x hx)
  rw [h1, hT, List.map_map]
  refine List.map_congr_left fun r hr => ?_
  simp only [Function.comp_def, List.map_map, multilin_eq_multilinInterp]
  exact h3 r hr

/-- the midpoint of two points, coordinate by coordinate -/
theorem meanPts_pair (d : Nat) (a b : Pt) (hb : b.length = d) :
    meanPts d [a, b] = List.zipWith (fun x y => (x + y) / 2) a b := by
  have hz : addPt b (List.replicate d 0) = b := by
    subst hb
    induction b with
    | nil => rfl
    | cons x b ih =>
      simp only [addPt, List.length_cons, List.replicate_succ, List.zipWith_cons_cons, add_zero] at ih ⊢
      rw [ih]
  rw [meanPts, sumPts, List.foldr_cons, List.foldr_cons, List.foldr_nil, hz]
  simp only [scalePt, addPt, List.map_zipWith, List.length_cons, List.length_nil]
  congr
  funext x y
  push_cast
  ring

theorem meanPts_four2 (a0 a1 b0 b1 c0 c1 d0 d1 : Rat) :
    meanPts 2 [[a0, a1], [b0, b1], [c0, c1], [d0, d1]]
      = [(a0 + b0 + c0 + d0) / 4, (a1 + b1 + c1 + d1) / 4] := by
  simp only [meanPts, sumPts, scalePt, addPt, List.foldr_cons, List.foldr_nil, List.replicate,
    List.zipWith_cons_cons, List.zipWith_nil_left, List.map_cons, List.map_nil, List.length_cons, List.length_nil,
    Nat.cast_ofNat, Nat.reduceAdd, List.cons.injEq, and_true]
  constructor <;> ring

/-- cross product at corner `b` of the path `a → b → c` -/
def turn (a b c : Pt) : Rat :=
  (co b 0 - co a 0) * (co c 1 - co b 1) - (co b 1 - co a 1) * (co c 0 - co b 0)

/-- the corner cross products of a quadrilateral: all positive (negative) iff strictly convex and
    counterclockwise (clockwise) -/
def quadCorners (X : List Pt) : List Rat :=
  let q := fun i => X.getD i []
  [turn (q 3) (q 0) (q 1), turn (q 0) (q 1) (q 2), turn (q 1) (q 2) (q 3), turn (q 2) (q 3) (q 0)]

/-- twice the signed area (shoelace) -/
def quadArea2 (X : List Pt) : Rat :=
  let q := fun i => X.getD i []
  (co (q 0) 0 * co (q 1) 1 - co (q 0) 1 * co (q 1) 0) + (co (q 1) 0 * co (q 2) 1 - co (q 1) 1 * co (q 2) 0)
  + (co (q 2) 0 * co (q 3) 1 - co (q 2) 1 * co (q 3) 0) + (co (q 3) 0 * co (q 0) 1 - co (q 3) 1 * co (q 0) 0)

/-- every corner cross product of every child is a positive combination of the parent's; at the cell midpoint
    it is `(T0 + T2) / 8 = (T1 + T3) / 8`, both sums being twice the signed area -/
theorem quad_corner_template (x0 y0 x1 y1 x2 y2 x3 y3 T0 T1 T2 T3 : Rat)
    (hT : quadCorners [[x0, y0], [x1, y1], [x2, y2], [x3, y3]] = [T0, T1, T2, T3]) :
    quadT.map (fun w => quadCorners (childPts .quad [[x0, y0], [x1, y1], [x2, y2], [x3, y3]] w))
      = [[T0 / 4, (T0 + T1) / 8, (T1 + T3) / 8, (T0 + T3) / 8],
         [(T0 + T1) / 8, T1 / 4, (T1 + T2) / 8, (T1 + T3) / 8],
         [(T1 + T3) / 8, (T1 + T2) / 8, T2 / 4, (T2 + T3) / 8],
         [(T0 + T3) / 8, (T1 + T3) / 8, (T2 + T3) / 8, T3 / 4]] := by
  simp only [quadCorners, turn, co, List.getD_cons_zero, List.getD_cons_succ, List.cons.injEq, and_true] at hT
  obtain ⟨h0, h1, h2, h3⟩ := hT
  subst h0 h1 h2 h3
  simp only [quadT, childPts, wordPt, Kind.dim, Kind.facets, quadFacets, meanPts_pair, List.length_cons, List.length_nil, Nat.reduceAdd, List.zipWith_cons_cons, List.zipWith_nil_left, meanPts_four2,
    quadCorners,
    turn, co, List.map_cons, List.map_nil, List.getD_cons_zero, List.getD_cons_succ, List.cons.injEq, and_true]
  and_intros <;> ring

theorem sum_abs_signed (signs : List Rat) (A c : Rat) (hc : 0 < c) (hs : ∀ s ∈ signs, |s| = 1) :
    ((signs.map (fun s => s * A / c)).map (fun v => |v|)).sum = signs.length * (|A| / c) := by
  induction signs with
  | nil => simp
  | cons s signs ih =>
    simp only [List.map_cons, List.sum_cons, List.length_cons, ih fun t ht => hs t (List.mem_cons_of_mem _ ht)]
    rw [abs_div, abs_mul, hs s (List.mem_cons_self ..), abs_of_pos hc]
    push_cast; ring

theorem sum_abs_of_template {α : Type} (T : List α) (M : α → Rat) (signs : List Rat) (A c : Rat) (hc : 0 < c)
    (hs : ∀ s ∈ signs, |s| = 1) (h : T.map M = signs.map (fun s => s * A / c)) :
    (T.map (fun w => |M w|)).sum = signs.length * (|A| / c) := by
  rw [← sum_abs_signed signs A c hc hs, ← h, List.map_map]
  rfl

end Skv.Refine
