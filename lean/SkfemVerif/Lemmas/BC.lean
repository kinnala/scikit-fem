import SkfemVerif.Model.BC
import SkfemVerif.Lemmas.Assembly
/-
Lemmas about Model/BC.lean.  A row of `A z` splits along a partition `I ++ D` into the condensed row and the part on
`D` (`matVec_split`): `condense` + expand and the patch test of C06 both rest on it.  Then the dense semantics of
`enforce` / `penalize` and the CSR row-zeroing index arithmetic.
-/
namespace Skv

section Expand
variable {K : Type}

theorem expandSol_nil_left (x : Nat → K) (sol : List K) : expandSol x [] sol = x := by
  simp [expandSol]

theorem expandSol_nil_right (x : Nat → K) (I : List Nat) : expandSol x I [] = x := by
  simp [expandSol]

theorem expandSol_cons (x : Nat → K) (a : Nat) (I : List Nat) (s : K) (sol : List K) :
    expandSol x (a :: I) (s :: sol)
      = expandSol (fun i => if i = a then s else x i) I sol := by
  simp [expandSol]

theorem expandSol_off (x : Nat → K) (I : List Nat) (sol : List K) (i : Nat) (hi : i ∉ I) :
    expandSol x I sol i = x i := by
  induction I generalizing x sol with
  | nil => rw [expandSol_nil_left]
  | cons a I ih =>
    cases sol with
    | nil => rw [expandSol_nil_right]
    | cons s sol =>
      rw [expandSol_cons, ih _ _ (fun h => hi (List.mem_cons_of_mem _ h))]
      have : i ≠ a := fun h => hi (h ▸ List.mem_cons_self)
      simp [this]

theorem expandSol_on (x : Nat → K) (I : List Nat) (sol : List K) (hI : I.Nodup)
    (hlen : sol.length = I.length) (p : Nat) (hp : p < I.length) :
    expandSol x I sol (I[p]) = sol[p]'(by omega) := by
  induction I generalizing x sol p with
  | nil => simp at hp
  | cons a I ih =>
    cases sol with
    | nil => simp at hlen
    | cons s sol =>
      rw [expandSol_cons]
      rw [List.nodup_cons] at hI
      cases p with
      | zero =>
        simp only [List.getElem_cons_zero]
        rw [expandSol_off _ _ _ _ hI.1]
        simp
      | succ p =>
        simp only [List.getElem_cons_succ]
        exact ih _ _ hI.2 (by simpa using hlen) p (by simpa using hp)

theorem map_expandSol (x : Nat → K) (I : List Nat) (sol : List K) (hI : I.Nodup)
    (hlen : sol.length = I.length) : I.map (expandSol x I sol) = sol := by
  refine List.ext_getElem (by rw [List.length_map, hlen]) fun p h1 _ => ?_
  rw [List.getElem_map, expandSol_on x I sol hI hlen p (by simpa using h1)]

theorem enforceMat_apply [Zero K] (A : Nat → Nat → K) (D : List Nat) (diag : K) (i j : Nat) :
    enforceMat A D diag i j = if i ∈ D then (if i = j then diag else 0) else A i j := by
  simp [enforceMat]

theorem enforceRhs_apply (b x : Nat → K) (D : List Nat) (i : Nat) :
    enforceRhs b x D i = if i ∈ D then x i else b i := by
  simp [enforceRhs]

theorem penalizeMat_apply (A : Nat → Nat → K) (D : List Nat) (epsInv : K) (i j : Nat) :
    penalizeMat A D epsInv i j = if i ∈ D ∧ i = j then epsInv else A i j := by
  simp [penalizeMat]

theorem penalizeRhs_apply [Mul K] (b x : Nat → K) (D : List Nat) (epsInv : K) (i : Nat) :
    penalizeRhs b x D epsInv i = if i ∈ D then x i * epsInv else b i := by
  simp [penalizeRhs]

end Expand

theorem perm_append_range (n : Nat) (I D : List Nat)
    (hI : I.Nodup) (hD : D.Nodup) (hdisj : ∀ i, i ∈ I → i ∉ D)
    (hcover : ∀ i, i < n ↔ (i ∈ I ∨ i ∈ D)) : (I ++ D).Perm (List.range n) := by
  have hnd : (I ++ D).Nodup := by
    rw [List.nodup_append]
    refine ⟨hI, hD, ?_⟩
    intro a ha b hb hab
    subst hab
    exact hdisj a ha hb
  rw [List.perm_ext_iff_of_nodup hnd List.nodup_range]
  intro a
  rw [List.mem_append, List.mem_range]
  exact (hcover a).symm

section Sums
variable {K : Type} [CommRing K]

theorem sum_range_split (n : Nat) (I D : List Nat) (hp : (I ++ D).Perm (List.range n))
    (f : Nat → K) : ((List.range n).map f).sum = (I.map f).sum + (D.map f).sum := by
  rw [← (hp.map f).sum_eq, List.map_append, List.sum_append]

theorem matVec_split (n : Nat) (A : Nat → Nat → K) (xs : Nat → K) (I D : List Nat)
    (hp : (I ++ D).Perm (List.range n)) (i : Nat) :
    matVec n A xs i
      = condensedRowApply A I (I.map xs) i + dotList D (fun d => A i d * xs d) := by
  have h : I.zip (I.map xs) = I.map (fun j => (j, xs j)) := by
    simpa using List.zip_map' (f := id) (g := xs) (l := I)
  unfold condensedRowApply
  rw [h, List.map_map]
  exact sum_range_split n I D hp _

theorem matVec_expand (n : Nat) (A : Nat → Nat → K) (x : Nat → K) (I D : List Nat)
    (hp : (I ++ D).Perm (List.range n)) (hI : I.Nodup) (hdisj : ∀ i, i ∈ I → i ∉ D)
    (sol : List K) (hlen : sol.length = I.length) (i : Nat) :
    matVec n A (expandSol x I sol) i
      = condensedRowApply A I sol i + dotList D (fun d => A i d * x d) := by
  rw [matVec_split n A _ I D hp, map_expandSol x I sol hI hlen]
  exact congrArg _ (congrArg List.sum (List.map_congr_left fun d hd => by
    rw [expandSol_off x I sol d (fun h => hdisj d h hd)]))

theorem restrict_solves_condensed (n : Nat) (A : Nat → Nat → K) (b x xs : Nat → K) (I D : List Nat)
    (hp : (I ++ D).Perm (List.range n))
    (hx : ∀ d ∈ D, x d = xs d) (i : Nat) (hG : matVec n A xs i = b i) :
    condensedRowApply A I (I.map xs) i = b i - dotList D (fun d => A i d * x d) := by
  rw [matVec_split n A xs I D hp i] at hG
  have hD' : dotList D (fun d => A i d * x d) = dotList D (fun d => A i d * xs d) :=
    congrArg List.sum (List.map_congr_left fun d hd => by rw [hx d hd])
  rw [hD', ← hG]
  ring

theorem matVec_eq_sum (n : Nat) (A : Nat → Nat → K) (z : Nat → K) (i : Nat) :
    matVec n A z i = ∑ j ∈ Finset.range n, A i j * z j := rfl

theorem matVec_enforce_mem (n : Nat) (A : Nat → Nat → K) (z : Nat → K) (D : List Nat)
    (diag : K) (i : Nat) (hi : i ∈ D) (hin : i < n) :
    matVec n (enforceMat A D diag) z i = diag * z i := by
  rw [matVec_eq_sum, Finset.sum_eq_single i]
  · rw [enforceMat_apply, if_pos hi, if_pos rfl]
  · intro j _ hj
    rw [enforceMat_apply, if_pos hi, if_neg (Ne.symm hj), zero_mul]
  · intro h
    exact absurd (Finset.mem_range.2 hin) h

theorem matVec_enforce_not_mem (n : Nat) (A : Nat → Nat → K) (z : Nat → K) (D : List Nat)
    (diag : K) (i : Nat) (hi : i ∉ D) :
    matVec n (enforceMat A D diag) z i = matVec n A z i := by
  simp only [matVec_eq_sum, enforceMat_apply, if_neg hi]

theorem matVec_penalize_mem (n : Nat) (A : Nat → Nat → K) (z : Nat → K) (D : List Nat)
    (epsInv : K) (i : Nat) (hi : i ∈ D) (hin : i < n) :
    matVec n (penalizeMat A D epsInv) z i
      = epsInv * z i + ∑ j ∈ (Finset.range n).erase i, A i j * z j := by
  rw [matVec_eq_sum, ← Finset.add_sum_erase _ _ (Finset.mem_range.2 hin)]
  congr 1
  · rw [penalizeMat_apply, if_pos ⟨hi, rfl⟩]
  · refine Finset.sum_congr rfl (fun j hj => ?_)
    rw [penalizeMat_apply, if_neg (fun h => Finset.ne_of_mem_erase hj h.2.symm)]

end Sums

theorem repeatList_cons_cons {β : Type} (v : β) (vs : List β) (c : Nat) (cs : List Nat) :
    repeatList (v :: vs) (c :: cs) = List.replicate c v ++ repeatList vs cs := rfl

theorem repeatList_nil_left {β : Type} (cs : List Nat) : repeatList ([] : List β) cs = [] := rfl

theorem repeatList_nil_right {β : Type} (vs : List β) : repeatList vs [] = [] := by
  cases vs <;> rfl

theorem replicate_zipIdx_map (s c o : Nat) :
    ((List.replicate c ((s : Int) - (o : Int))).zipIdx o).map (fun p => (p.1 + (p.2 : Int)).toNat)
      = List.range' s c := by
  apply List.ext_getElem
  · simp
  · intro r h1 h2
    simp only [List.getElem_map, List.getElem_zipIdx, List.getElem_replicate,
      List.getElem_range']
    push_cast
    omega

/-- the base offsets of `rowZeroIdx` when `o` positions precede; `rowZeroIdx` is the case `o = 0` by unfolding -/
def rowBase (start count : List Nat) (o : Nat) : List Int :=
  List.zipWith (fun (s : Nat) (p : Nat × Nat) => (s : Int) - (((p.1 + o : Nat) : Int) - (p.2 : Int)))
    start ((cumsum count).zip count)

theorem rowBase_cons (s : Nat) (ss : List Nat) (c : Nat) (cs : List Nat) (o : Nat) :
    rowBase (s :: ss) (c :: cs) o = ((s : Int) - (o : Int)) :: rowBase ss cs (o + c) := by
  unfold rowBase
  simp only [cumsum, List.zip_cons_cons, List.zipWith_cons_cons, List.zip_map_left,
    List.zipWith_map_right, Prod.map_fst, Prod.map_snd, id, Nat.add_assoc, Nat.add_comm c o]
  congr 1
  push_cast
  omega

theorem rowZero_aux (start count : List Nat) (o : Nat) :
    ((repeatList (rowBase start count o) count).zipIdx o).map
        (fun p => (p.1 + (p.2 : Int)).toNat)
      = (List.zipWith (fun s c => List.range' s c) start count).flatten := by
  induction start generalizing count o with
  | nil => rfl
  | cons s ss ih =>
    cases count with
    | nil => simp [repeatList_nil_right]
    | cons c cs =>
      rw [rowBase_cons, repeatList_cons_cons, List.zipIdx_append, List.map_append,
        replicate_zipIdx_map, List.length_replicate, ih cs (o + c)]
      rfl

theorem flatten_zipWith_ranges (indptr : List Nat) (D : List Nat) :
    (List.zipWith (fun s c => List.range' s c) (D.map (fun d => indptr.getD d 0))
        (List.zipWith (fun a b => a - b) (D.map (fun d => indptr.getD (d + 1) 0))
          (D.map (fun d => indptr.getD d 0)))).flatten
      = rowRanges indptr D := by
  unfold rowRanges
  induction D with
  | nil => simp
  | cons d D ih =>
    simp only [List.map_cons, List.zipWith_cons_cons, List.flatten_cons, List.flatMap_cons]
    rw [ih]

theorem getD_zeroAt {K : Type} [Zero K] (data : List K) (idx : List Nat) (p : Nat) :
    (zeroAt data idx).getD p 0 = if p ∈ idx then 0 else data.getD p 0 := by
  unfold zeroAt
  simp only [List.getD_eq_getElem?_getD, List.getElem?_map, List.getElem?_zipIdx, Nat.zero_add]
  cases h : data[p]? with
  | none => simp
  | some v => simp

theorem mem_rowRanges {indptr D : List Nat} {p : Nat} :
    p ∈ rowRanges indptr D ↔ ∃ d ∈ D, indptr.getD d 0 ≤ p ∧ p < indptr.getD (d + 1) 0 := by
  unfold rowRanges
  simp only [List.mem_flatMap, List.mem_range'_1]
  constructor
  · rintro ⟨d, hd, h1, h2⟩
    exact ⟨d, hd, h1, by omega⟩
  · rintro ⟨d, hd, h1, h2⟩
    exact ⟨d, hd, h1, by omega⟩

theorem indptr_mono_le (indptr : List Nat)
    (hmono : ∀ i, i + 1 < indptr.length → indptr.getD i 0 ≤ indptr.getD (i + 1) 0)
    (a b : Nat) (hab : a ≤ b) (hb : b < indptr.length) :
    indptr.getD a 0 ≤ indptr.getD b 0 := by
  induction b with
  | zero =>
    have : a = 0 := by omega
    subst this; exact Nat.le_refl _
  | succ b ih =>
    rcases Nat.lt_or_ge a (b + 1) with h | h
    · exact Nat.le_trans (ih (by omega) (by omega)) (hmono b hb)
    · have : a = b + 1 := by omega
      subst this; exact Nat.le_refl _

end Skv
