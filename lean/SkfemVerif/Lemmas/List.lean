/-
Facts about core `List` and `Nat` that the library lacks; nothing here mentions the model.  Core Lean only: the
`getD` lemmas are twins of Mathlib's `Data.List.GetD`, for the files that do not import Mathlib.
-/
namespace Skv

theorem map_eq_self {α : Type} {f : α → α} {l : List α} (h : ∀ x ∈ l, f x = x) : l.map f = l :=
  (List.map_congr_left h).trans (List.map_id l)

/-! ### the index arithmetic of tables: `i * n + k` with `k < n` -/

/-- companion of core's `Nat.mul_add_mod_of_lt` -/
theorem mul_add_div_of_lt {a b c : Nat} (h : c < b) : (a * b + c) / b = a :=
  ((Nat.div_mod_unique (Nat.zero_lt_of_lt h)).mpr
    ⟨by rw [Nat.add_comm, Nat.mul_comm], h⟩).1

theorem mul_add_inj {m c p c' p' : Nat} (hp : p < m) (hp' : p' < m)
    (h : c' * m + p' = c * m + p) : c' = c ∧ p' = p :=
  ⟨(mul_add_div_of_lt hp').symm.trans ((congrArg (· / m) h).trans (mul_add_div_of_lt hp)),
   (Nat.mul_add_mod_of_lt hp').symm.trans
    ((congrArg (· % m) h).trans (Nat.mul_add_mod_of_lt hp))⟩

theorem mul_add_lt_mul {a m i k : Nat} (ha : a < m) (hi : i < k) : i * m + a < k * m :=
  Nat.lt_of_lt_of_le (Nat.add_lt_add_left ha _)
    (Nat.succ_mul i m ▸ Nat.mul_le_mul_right m hi)

theorem forall_lt_mul_iff {m n : Nat} {Q : Nat → Prop} :
    (∀ j, j < m * n → Q j) ↔ ∀ i k, i < m → k < n → Q (i * n + k) := by
  refine ⟨fun h i k hi hk => h _ (mul_add_lt_mul hk hi), fun h j hj => ?_⟩
  have := h (j / n) (j % n) (Nat.div_lt_of_lt_mul (Nat.mul_comm m n ▸ hj))
    (Nat.mod_lt j (Nat.pos_of_lt_mul_left hj))
  rwa [Nat.div_add_mod'] at this

/-! ### `getD` (how the models read) against `l[i]` (how the statements read) -/

theorem getD_eq_getElem {α : Type} (l : List α) (d : α) {i : Nat} (h : i < l.length) :
    l.getD i d = l[i] :=
  (List.getElem_eq_getD d).symm

theorem getD_eq_of_getElem?_eq_some {α : Type} {l : List α} {i : Nat} {x : α} (h : l[i]? = some x)
    (d : α) : l.getD i d = x := by
  rw [List.getD_eq_getElem?_getD, h]; rfl

theorem getD_mem {α : Type} (l : List α) (d : α) {i : Nat} (h : i < l.length) : l.getD i d ∈ l :=
  getD_eq_getElem l d h ▸ List.getElem_mem h

theorem getD_set_ne {α : Type} (w : List α) (i j : Nat) (y : α) {d : α} (h : i ≠ j) :
    (w.set i y).getD j d = w.getD j d := by
  simp [List.getD_eq_getElem?_getD, List.getElem?_set_ne h]

theorem getD_set_eq {α : Type} (w : List α) (i : Nat) (y : α) {d : α} (h : i < w.length) :
    (w.set i y).getD i d = y := by
  simp [List.getD_eq_getElem?_getD, h]

theorem getD_map_of_lt {α β : Type} (f : α → β) (l : List α) (j : Nat) (d : β) (d0 : α)
    (h : j < l.length) : (l.map f).getD j d = f (l.getD j d0) := by
  rw [getD_eq_getElem _ _ (by rwa [List.length_map]), List.getElem_map, getD_eq_getElem _ _ h]

theorem getD_append_left {α : Type} (l₁ l₂ : List α) (d : α) {i : Nat} (h : i < l₁.length) :
    (l₁ ++ l₂).getD i d = l₁.getD i d := by
  rw [List.getD_eq_getElem?_getD, List.getElem?_append_left h, ← List.getD_eq_getElem?_getD]

/-- the length is a hypothesis: the offsets met are sums of sizes, never `l₁.length` as written -/
theorem getD_append_right {α : Type} {l₁ : List α} {n : Nat} (h : l₁.length = n) (l₂ : List α)
    (d : α) (i : Nat) : (l₁ ++ l₂).getD (n + i) d = l₂.getD i d := by
  subst h
  rw [List.getD_eq_getElem?_getD, List.getElem?_append_right (Nat.le_add_right ..),
    Nat.add_sub_cancel_left, ← List.getD_eq_getElem?_getD]

/-! ### a table given by a formula: `(List.range n).map f` -/

theorem getD_map_range {β : Type} (f : Nat → β) (d : β) {n i : Nat} (h : i < n) :
    ((List.range n).map f).getD i d = f i := by
  rw [getD_eq_getElem _ _ (by rwa [List.length_map, List.length_range]), List.getElem_map,
    List.getElem_range]

theorem map_getD_range_take {β γ : Type} (l : List β) (d : β) (g : β → γ) {n : Nat}
    (hn : n ≤ l.length) : (List.range n).map (fun k => g (l.getD k d)) = (l.take n).map g := by
  refine List.ext_getElem (by simp [Nat.min_eq_left hn]) fun i h1 _ => ?_
  have hi : i < n := by simpa using h1
  rw [List.getElem_map, List.getElem_map, List.getElem_range, List.getElem_take,
    getD_eq_getElem _ _ (Nat.lt_of_lt_of_le hi hn)]

theorem map_getD_range {β γ : Type} (l : List β) (d : β) (g : β → γ) :
    (List.range l.length).map (fun k => g (l.getD k d)) = l.map g :=
  (map_getD_range_take l d g (Nat.le_refl _)).trans (by rw [List.take_length])

theorem map_getD_range_id {β : Type} (l : List β) (d : β) :
    (List.range l.length).map (fun k => l.getD k d) = l :=
  (map_getD_range l d id).trans (List.map_id l)

/-! ### fancy indexing `t[q]`: relisting `t` by a list `q` of positions, `q.map (t.getD · d)` -/

theorem map_getD_map {α β : Type} (f : α → β) (t : List α) (d : α) (d' : β) {q : List Nat}
    (hq : ∀ i ∈ q, i < t.length) :
    q.map (fun i => (t.map f).getD i d') = (q.map fun i => t.getD i d).map f := by
  rw [List.map_map]
  exact List.map_congr_left fun i hi => getD_map_of_lt f t i d' d (hq i hi)

theorem mem_of_mem_map_getD {α : Type} {t : List α} {d : α} {q : List Nat}
    (hq : ∀ i ∈ q, i < t.length) {x : α} (h : x ∈ q.map fun i => t.getD i d) : x ∈ t := by
  obtain ⟨i, hi, rfl⟩ := List.mem_map.mp h
  exact getD_mem t d (hq i hi)

theorem perm_map_getD {α : Type} (t : List α) (d : α) {q : List Nat}
    (h : q.Perm (List.range t.length)) : (q.map fun i => t.getD i d).Perm t :=
  (h.map _).trans (.of_eq (map_getD_range_id t d))

/-! ### positions (`List.idxOf`) -/

theorem idxOf_cons_ne {α : Type} [BEq α] [LawfulBEq α] {x y : α} {xs : List α} (h : ¬ x = y) :
    (x :: xs).idxOf y = xs.idxOf y + 1 := by
  rw [List.idxOf_cons, beq_false_of_ne h, cond_false]

theorem idxOf_range {n v : Nat} (h : v < n) : (List.range n).idxOf v = v := by
  have := List.nodup_range.idxOf_getElem v ((List.length_range (n := n)).symm ▸ h)
  rwa [List.getElem_range] at this

theorem idxOf_inj {α : Type} [BEq α] [LawfulBEq α] {l : List α} {a b : α} (ha : a ∈ l) :
    l.idxOf a = l.idxOf b ↔ a = b := by
  refine ⟨fun h => ?_, fun h => h ▸ rfl⟩
  have hb := List.getElem_idxOf (h ▸ List.idxOf_lt_length_of_mem ha)
  simp only [← h] at hb
  exact (List.getElem_idxOf _).symm.trans hb

theorem getD_idxOf {α : Type} [BEq α] [LawfulBEq α] {l : List α} {a : α} (h : a ∈ l) (d : α) :
    l.getD (l.idxOf a) d = a :=
  (getD_eq_getElem l d (List.idxOf_lt_length_of_mem h)).trans (List.getElem_idxOf _)

theorem idxOf_append_cons_self {α : Type} [BEq α] [LawfulBEq α] {l₁ l₂ : List α} {f : α}
    (hn : f ∉ l₁) : (l₁ ++ f :: l₂).idxOf f = l₁.length := by
  rw [List.idxOf_append, if_neg hn, List.idxOf_cons_self, Nat.zero_add]

theorem idxOf_map_of_injOn {α β : Type} [BEq α] [LawfulBEq α] [BEq β] [LawfulBEq β] (g : α → β) :
    ∀ (l : List α) (a : α), a ∈ l → (∀ x ∈ l, g x = g a → x = a) →
      (l.map g).idxOf (g a) = l.idxOf a
  | [], a, h, _ => by simp at h
  | x :: xs, a, h, hinj => by
    by_cases hxa : x = a
    · subst hxa; simp
    · rw [List.map_cons, idxOf_cons_ne hxa, idxOf_cons_ne fun e => hxa (hinj x List.mem_cons_self e),
        idxOf_map_of_injOn g xs a ((List.mem_cons.mp h).resolve_left (Ne.symm hxa))
          fun y hy => hinj y (List.mem_cons_of_mem _ hy)]

/-- a definition that compares with `DecidableEq` and a statement that uses the type's `BEq` agree -/
theorem idxOf_inst {α : Type} [DecidableEq α] [BEq α] [LawfulBEq α] (x : α) (l : List α) :
    @List.idxOf α instBEqOfDecidableEq x l = l.idxOf x := by
  simp only [List.idxOf, Bool.beq_eq_decide_eq]

/-! ### first and last occurrence of `f` in `e`: positions `e.idxOf f` and
    `e.length - 1 - e.reverse.idxOf f` -/

section Occurrence
variable {α : Type} [BEq α] [LawfulBEq α]

theorem lastPos_spec (e : List α) (f : α) (hf : f ∈ e) :
    ∃ h : e.length - 1 - e.reverse.idxOf f < e.length,
      e[e.length - 1 - e.reverse.idxOf f] = f := by
  have hj := List.idxOf_lt_length_of_mem (List.mem_reverse.mpr hf)
  have hget := List.getElem_idxOf hj
  rw [List.getElem_reverse] at hget
  exact ⟨by rw [List.length_reverse] at hj; omega, hget⟩

theorem pos_first_or_last (e : List α) (f : α) (c : Nat) (hc : c < e.length) (h : e[c] = f)
    (htwo : e.count f ≤ 2) :
    c = e.idxOf f ∨ c = e.length - 1 - e.reverse.idxOf f := by
  have hs : e = e.take c ++ f :: e.drop (c + 1) := by
    rw [← h, List.getElem_cons_drop hc, List.take_append_drop]
  have hcount : e.count f = (e.take c).count f + ((e.drop (c + 1)).count f + 1) := by
    conv => lhs; rw [hs]
    rw [List.count_append, List.count_cons_self]
  rcases Nat.eq_zero_or_pos ((e.take c).count f) with h0 | h0
  · left
    conv => rhs; rw [hs]
    rw [idxOf_append_cons_self (List.count_eq_zero.mp h0), List.length_take,
      Nat.min_eq_left (Nat.le_of_lt hc)]
  · right
    have h1 : (e.drop (c + 1)).count f = 0 := by omega
    have hr := congrArg List.reverse hs
    rw [List.reverse_append, List.reverse_cons, List.append_assoc, List.singleton_append] at hr
    rw [hr, idxOf_append_cons_self (mt List.mem_reverse.mp (List.count_eq_zero.mp h1)),
      List.length_reverse, List.length_drop]
    omega

end Occurrence

theorem nodup_of_pairwise {α : Type} {r : α → α → Prop} (hr : ∀ a, ¬ r a a) {l : List α}
    (h : l.Pairwise r) : l.Nodup :=
  h.imp (S := (· ≠ ·)) fun hab e => hr _ (e ▸ hab)

theorem eq_of_pairwise_of_mem_iff {α : Type} {r : α → α → Prop} (hr : ∀ a b, r a b → ¬ r b a)
    {l₁ l₂ : List α} (h₁ : l₁.Pairwise r) (h₂ : l₂.Pairwise r) (h : ∀ x, x ∈ l₁ ↔ x ∈ l₂) :
    l₁ = l₂ :=
  have irr a (h : r a a) := hr a a h h
  ((List.perm_ext_iff_of_nodup (nodup_of_pairwise irr h₁) (nodup_of_pairwise irr h₂)).mpr h
    ).eq_of_pairwise (fun a b _ _ hab hba => absurd hba (hr a b hab)) h₁ h₂

theorem inj_of_nodup_map {α β : Type} (f : α → β) {l : List α} (hn : (l.map f).Nodup)
    {a b : α} (ha : a ∈ l) (hb : b ∈ l) : f a = f b → a = b :=
  have P : l.Pairwise (fun a b => f a ≠ f b) := List.pairwise_map.mp hn
  List.Pairwise.forall_of_forall_of_flip (R := fun a b => f a = f b → a = b) (fun _ _ _ => rfl)
    (P.imp fun h e => absurd e h) (P.imp fun h e => absurd e.symm h) ha hb

theorem map_fst_zip_sublist {α β : Type} : ∀ (l₁ : List α) (l₂ : List β),
    ((l₁.zip l₂).map Prod.fst).Sublist l₁
  | [], _ => by simp
  | _ :: _, [] => by simp
  | _ :: l₁, _ :: l₂ => (map_fst_zip_sublist l₁ l₂).cons_cons _

theorem nodup_flatMap_map {α β γ : Type} {xs : List α} {g : α → List β} {f : α → β → γ}
    (hx : xs.Nodup) (hg : ∀ x ∈ xs, (g x).Nodup)
    (hf : ∀ x x' b b', f x b = f x' b' → x = x' ∧ b = b') :
    (xs.flatMap fun x => (g x).map (f x)).Nodup := by
  unfold List.Nodup
  rw [List.pairwise_flatMap]
  refine ⟨fun x hxm => List.pairwise_map.mpr ((hg x hxm).imp fun h e => h (hf _ _ _ _ e).2),
    hx.imp fun hne y hy z hz e => ?_⟩
  obtain ⟨_, _, rfl⟩ := List.mem_map.mp hy
  obtain ⟨_, _, rfl⟩ := List.mem_map.mp hz
  exact hne (hf _ _ _ _ e).1

/-! ### tables stored row after row (C order): entry `(i, k)` of rows of length `n` at `i * n + k` -/

theorem length_flatten_of_uniform {β : Type} (rows : List (List β)) (n : Nat)
    (hrows : ∀ r ∈ rows, r.length = n) : rows.flatten.length = rows.length * n := by
  rw [List.length_flatten, List.map_congr_left hrows, List.map_const', List.sum_replicate_nat]

theorem flatten_getElem?_of_uniform {β : Type} (rows : List (List β)) (n : Nat)
    (hrows : ∀ r ∈ rows, r.length = n) (i k : Nat) (hk : k < n) :
    rows.flatten[i * n + k]? = rows[i]?.bind (·[k]?) := by
  induction rows generalizing i with
  | nil => rfl
  | cons r rs ih =>
    have hr : r.length = n := hrows r List.mem_cons_self
    rw [List.flatten_cons]
    cases i with
    | zero => rw [Nat.zero_mul, Nat.zero_add, List.getElem?_append_left (hr ▸ hk)]; rfl
    | succ i =>
      rw [Nat.succ_mul, Nat.add_right_comm, List.getElem?_append_right (hr ▸ Nat.le_add_left ..),
        hr, Nat.add_sub_cancel, ih fun r' h' => hrows r' (List.mem_cons_of_mem _ h'),
        List.getElem?_cons_succ]

theorem flatten_getElem_div_mod {β : Type} (rows : List (List β)) (n : Nat)
    (hrows : ∀ r ∈ rows, r.length = n) (c : Nat) (hc : c < rows.flatten.length) :
    ∃ hi : c / n < rows.length, ∃ hk : c % n < (rows[c / n]).length,
      (rows[c / n])[c % n] = rows.flatten[c] := by
  have hn : 0 < n := Nat.pos_of_lt_mul_left (length_flatten_of_uniform rows n hrows ▸ hc)
  have h := flatten_getElem?_of_uniform rows n hrows (c / n) (c % n) (Nat.mod_lt c hn)
  rw [Nat.div_add_mod', List.getElem?_eq_getElem hc] at h
  obtain ⟨r, hr, hk⟩ := Option.bind_eq_some_iff.mp h.symm
  obtain ⟨hi, rfl⟩ := List.getElem?_eq_some_iff.mp hr
  exact ⟨hi, List.getElem?_eq_some_iff.mp hk⟩

theorem length_flatMap_uniform {α β : Type} (l : List α) (m : Nat) (g : α → List β)
    (hg : ∀ a ∈ l, (g a).length = m) : (l.flatMap g).length = l.length * m := by
  rw [List.flatMap_def, length_flatten_of_uniform _ m (List.forall_mem_map.mpr hg), List.length_map]

theorem getElem?_flatMap_uniform {α β : Type} (l : List α) (m : Nat) (g : α → List β)
    (hg : ∀ a ∈ l, (g a).length = m) (i k : Nat) (hi : i < l.length) (hk : k < m) :
    (l.flatMap g)[i * m + k]? = (g l[i])[k]? := by
  rw [List.flatMap_def, flatten_getElem?_of_uniform _ m (List.forall_mem_map.mpr hg) i k hk,
    List.getElem?_map, List.getElem?_eq_getElem hi]
  rfl

theorem length_flatMap_map {α β γ : Type} (xs : List α) (ys : List β) (f : α → β → γ) :
    (xs.flatMap fun x => ys.map (f x)).length = xs.length * ys.length :=
  length_flatMap_uniform xs ys.length _ fun _ _ => List.length_map _

theorem getElem?_flatMap_map {α β γ : Type} (xs : List α) (ys : List β) (f : α → β → γ)
    (i k : Nat) (hk : k < ys.length) :
    (xs.flatMap fun x => ys.map (f x))[i * ys.length + k]? = xs[i]?.map (f · ys[k]) := by
  rw [List.flatMap_def, flatten_getElem?_of_uniform _ ys.length
    (List.forall_mem_map.mpr fun _ _ => List.length_map _) i k hk, List.getElem?_map]
  cases xs[i]? <;> simp [hk]

theorem getElem_flatMap_map {α β γ : Type} (xs : List α) (ys : List β) (f : α → β → γ)
    (i k : Nat) (hi : i < xs.length) (hk : k < ys.length) :
    ∃ h : i * ys.length + k < (xs.flatMap fun x => ys.map (f x)).length,
      (xs.flatMap fun x => ys.map (f x))[i * ys.length + k] = f xs[i] ys[k] :=
  List.getElem?_eq_some_iff.mp
    (by rw [getElem?_flatMap_map _ _ _ _ _ hk, List.getElem?_eq_getElem hi]; rfl)

theorem range_mul_eq_flatMap (m d : Nat) :
    List.range (m * d) = (List.range m).flatMap fun a => (List.range d).map fun n => a * d + n := by
  induction m with
  | zero => simp
  | succ m ih =>
    rw [List.range_succ, List.flatMap_append, ← ih, Nat.add_mul, Nat.one_mul, List.range_add]
    simp

theorem range_mul_map {β : Type} (m d : Nat) (h : Nat → β) :
    (List.range (m * d)).map h
      = (List.range m).flatMap (fun a => (List.range d).map (fun n => h (a * d + n))) := by
  rw [range_mul_eq_flatMap, List.map_flatMap]
  simp only [List.map_map, Function.comp_def]

theorem range_mul_flatMap {β : Type} (m d : Nat) (F : Nat → List β) :
    (List.range (m * d)).flatMap F
      = (List.range m).flatMap (fun a => (List.range d).flatMap (fun n => F (a * d + n))) := by
  rw [range_mul_eq_flatMap, List.flatMap_assoc]
  simp only [List.flatMap_map]

theorem range_add_map {β : Type} (a b : Nat) (h : Nat → β) :
    (List.range (a + b)).map h = (List.range a).map h ++ (List.range b).map (fun i => h (a + i)) := by
  rw [List.range_add, List.map_append, List.map_map]
  rfl

/-! ### a range cut into blocks by a list of sizes `l`: block `k` starts at `(l.take k).sum` -/

theorem sum_take_succ (l : List Nat) {k : Nat} (hk : k < l.length) :
    (l.take (k + 1)).sum = (l.take k).sum + l[k] := by
  rw [List.take_add_one, List.getElem?_eq_getElem hk, List.sum_append_nat, Option.toList_some,
    List.sum_cons, List.sum_nil, Nat.add_zero]

theorem sum_take_le (l : List Nat) {k k' : Nat} (h : k ≤ k') : (l.take k).sum ≤ (l.take k').sum := by
  obtain ⟨r, hr⟩ := List.take_prefix_take_left (l := l) h
  rw [← hr, List.sum_append_nat]
  exact Nat.le_add_right ..

theorem sum_take_le_sum (l : List Nat) (k : Nat) : (l.take k).sum ≤ l.sum := by
  conv => rhs; rw [← List.take_append_drop k l, List.sum_append_nat]
  exact Nat.le_add_right ..

theorem sum_take_add_lt (l : List Nat) {k a : Nat} (hk : k < l.length) (ha : a < l[k]) :
    (l.take k).sum + a < l.sum :=
  Nat.lt_of_lt_of_le (sum_take_succ l hk ▸ Nat.add_lt_add_left ha _) (sum_take_le_sum l (k + 1))

theorem exists_block_of_lt_sum : ∀ (l : List Nat) {x : Nat}, x < l.sum →
    ∃ k, ∃ hk : k < l.length, ∃ a < l[k], x = (l.take k).sum + a
  | [], _, hx => absurd hx (Nat.not_lt_zero _)
  | n :: l, x, hx =>
    if h : x < n then ⟨0, Nat.succ_pos _, x, h, (Nat.zero_add x).symm⟩
    else
      have ⟨k, hk, a, ha, e⟩ := exists_block_of_lt_sum l (x := x - n)
        (Nat.sub_lt_left_of_lt_add (Nat.le_of_not_lt h) (List.sum_cons (α := Nat) ▸ hx))
      ⟨k + 1, Nat.succ_lt_succ hk, a, ha, by
        rw [List.take_succ_cons, List.sum_cons, Nat.add_assoc, ← e,
          Nat.add_sub_cancel' (Nat.le_of_not_lt h)]⟩

theorem block_unique (l : List Nat) {k k' a a' : Nat} (hk : k < l.length) (hk' : k' < l.length)
    (ha : a < l[k]) (ha' : a' < l[k'])
    (h : (l.take k).sum + a = (l.take k').sum + a') : k = k' ∧ a = a' := by
  have lt : ∀ {k k' a a'} (hk : k < l.length), a < l[k] → k < k' →
      (l.take k).sum + a < (l.take k').sum + a' := fun hk ha hlt =>
    Nat.lt_of_lt_of_le (sum_take_succ l hk ▸ Nat.add_lt_add_left ha _)
      (Nat.le_trans (sum_take_le l hlt) (Nat.le_add_right ..))
  rcases Nat.lt_trichotomy k k' with hlt | rfl | hlt
  · exact absurd h (Nat.ne_of_lt (lt hk ha hlt))
  · exact ⟨rfl, Nat.add_left_cancel h⟩
  · exact absurd h.symm (Nat.ne_of_lt (lt hk' ha' hlt))

/-! ### lists stored block after block: entry `s` of block `k` of `L.flatten` -/

theorem getElem?_flatten_add {α : Type} : ∀ (L : List (List α)) (k s : Nat),
    s < (L.getD k []).length →
    L.flatten[((L.map List.length).take k).sum + s]? = (L.getD k [])[s]?
  | [], _, _, hs => absurd hs (Nat.not_lt_zero _)
  | b :: L, 0, s, hs => by
    rw [List.take_zero, List.sum_nil, Nat.zero_add, List.flatten_cons]
    exact List.getElem?_append_left hs
  | b :: L, k + 1, s, hs => by
    rw [List.map_cons, List.take_succ_cons, List.sum_cons, Nat.add_assoc, List.flatten_cons,
      List.getElem?_append_right (Nat.le_add_right ..), Nat.add_sub_cancel_left]
    exact getElem?_flatten_add L k s hs

theorem exists_block_of_lt_flatten {α : Type} (L : List (List α)) {i : Nat}
    (hi : i < L.flatten.length) :
    ∃ k s, k < L.length ∧ s < (L.getD k []).length ∧ i = ((L.map List.length).take k).sum + s := by
  obtain ⟨k, hk, s, hs, e⟩ := exists_block_of_lt_sum _ (List.length_flatten ▸ hi)
  rw [List.length_map] at hk
  rw [List.getElem_map] at hs
  exact ⟨k, s, hk, by rwa [List.getD_eq_getElem?_getD, List.getElem?_eq_getElem hk], e⟩

theorem getElem?_flatMap_range_add {β : Type} (K : Nat) (g : Nat → List β) (n s : Nat) (hn : n < K)
    (hs : s < (g n).length) :
    ((List.range K).flatMap g)[((List.range n).map fun j => (g j).length).sum + s]? = (g n)[s]? := by
  obtain ⟨m, rfl⟩ : ∃ m, K = n + (m + 1) := ⟨K - n - 1, by omega⟩
  rw [List.range_add, List.flatMap_append, List.range_succ_eq_map, List.map_cons, List.flatMap_cons,
    Nat.add_zero, ← List.length_flatMap, List.getElem?_append_right (Nat.le_add_right ..),
    Nat.add_sub_cancel_left, List.getElem?_append_left hs]

theorem take_flatMap_range_add {β : Type} (K : Nat) (g : Nat → List β) (n s : Nat) (hn : n < K)
    (hs : s ≤ (g n).length) :
    ((List.range K).flatMap g).take (((List.range n).map fun j => (g j).length).sum + s)
      = (List.range n).flatMap g ++ (g n).take s := by
  obtain ⟨m, rfl⟩ : ∃ m, K = n + (m + 1) := ⟨K - n - 1, by omega⟩
  rw [List.range_add, List.flatMap_append, List.range_succ_eq_map, List.map_cons, List.flatMap_cons,
    Nat.add_zero, ← List.length_flatMap, List.take_length_add_append, List.take_append_of_le_length hs]

theorem length_flatten_replicate {β : Type} (m : Nat) (P : List β) :
    (List.replicate m P).flatten.length = m * P.length := by
  rw [length_flatten_of_uniform _ P.length fun r h => (List.eq_of_mem_replicate h) ▸ rfl,
    List.length_replicate]

theorem count_flatten_replicate {β : Type} [BEq β] (m : Nat) (P : List β) (x : β) :
    (List.replicate m P).flatten.count x = m * P.count x := by
  simp [List.count_flatten]

theorem zip_flatMap {ι α β : Type} (l : List ι) (f : ι → List α) (g : ι → List β)
    (h : ∀ i ∈ l, (f i).length = (g i).length) :
    (l.flatMap f).zip (l.flatMap g) = l.flatMap fun i => (f i).zip (g i) := by
  induction l with
  | nil => rfl
  | cons a l ih =>
    rw [List.flatMap_cons, List.flatMap_cons, List.flatMap_cons,
      List.zip_append (h a List.mem_cons_self), ih fun i hi => h i (List.mem_cons_of_mem _ hi)]

/-! ### the entries of `range n` that pass a test, in ascending order: `k` sits at its rank -/

theorem getElem?_filter_range_rank (p : Nat → Bool) {n k : Nat} (hk : k < n) (hp : p k = true) :
    ((List.range n).filter p)[((List.range k).filter p).length]? = some k := by
  obtain ⟨m, rfl⟩ : ∃ m, n = k + (m + 1) := ⟨n - k - 1, by omega⟩
  rw [List.range_add, List.filter_append, List.getElem?_append_right (Nat.le_refl _), Nat.sub_self,
    List.range_succ_eq_map, List.map_cons, Nat.add_zero, List.filter_cons_of_pos hp]
  rfl

theorem length_filter_range_getElem (p : Nat → Bool) (n r : Nat)
    (hr : r < ((List.range n).filter p).length) :
    ((List.range (((List.range n).filter p)[r])).filter p).length = r := by
  have hmem := List.mem_filter.mp (List.getElem_mem hr)
  have h := getElem?_filter_range_rank p (List.mem_range.mp hmem.1) hmem.2
  obtain ⟨hlt, h'⟩ := List.getElem?_eq_some_iff.1 h
  exact (List.getElem_inj (List.nodup_range.filter p)).1 h'

theorem pairwise_filter_range (n : Nat) (p : Nat → Bool) :
    ((List.range n).filter p).Pairwise (· < ·) :=
  List.Pairwise.filter p List.pairwise_lt_range

theorem length_filter_range_getD {α : Type} (l : List α) (d : α) (q : α → Bool) :
    ((List.range l.length).filter fun i => q (l.getD i d)).length = l.countP q := by
  conv => rhs; rw [← map_getD_range_id l d, List.countP_map]
  exact List.countP_eq_length_filter.symm

end Skv
