import SkfemVerif.Model.Assembly
/-
Lemmas for C16 (threaded assembly).  Core Lean only.
-/
namespace Skv

theorem sum_sizes_aux (a r m : Nat) :
    ((List.range m).map (fun i => a + (if i < r then 1 else 0))).sum = m * a + min m r := by
  induction m with
  | zero => simp
  | succ m ih =>
    rw [List.range_succ, List.map_append, List.sum_append_nat, ih, Nat.succ_mul]
    simp only [List.map_cons, List.map_nil, List.sum_cons, List.sum_nil]
    split <;> omega

theorem length_arraySplitSizes (len n : Nat) : (arraySplitSizes len n).length = n := by
  simp [arraySplitSizes]

theorem sum_arraySplitSizes (len n : Nat) (hn : 0 < n) : (arraySplitSizes len n).sum = len := by
  unfold arraySplitSizes
  rw [sum_sizes_aux]
  have h1 : len % n < n := Nat.mod_lt _ hn
  have h2 : n * (len / n) + len % n = len := Nat.div_add_mod len n
  omega

theorem length_splitBySizes {β : Type} (ss : List Nat) (l : List β) :
    (splitBySizes ss l).length = ss.length := by
  induction ss generalizing l with
  | nil => simp [splitBySizes]
  | cons s ss ih => simp [splitBySizes, ih]

theorem flatten_splitBySizes {β : Type} (ss : List Nat) (l : List β) :
    (splitBySizes ss l).flatten = l.take ss.sum := by
  induction ss generalizing l with
  | nil => simp [splitBySizes]
  | cons s ss ih =>
    simp only [splitBySizes, List.flatten_cons, List.sum_cons, ih]
    rw [List.take_add]

theorem map_length_splitBySizes {β : Type} (ss : List Nat) (l : List β) (h : ss.sum ≤ l.length) :
    (splitBySizes ss l).map List.length = ss := by
  induction ss generalizing l with
  | nil => simp [splitBySizes]
  | cons s ss ih =>
    simp only [List.sum_cons] at h
    simp only [splitBySizes, List.map_cons, List.length_take]
    rw [ih (l.drop s) (by simp; omega), Nat.min_eq_left (by omega)]

/-- the idea of C16: a kernel invocation writes `kernel p` into slot `p` whatever is there, so after any sequence
    of invocations a slot holds `kernel p` if it was visited and its initial value if not -/
theorem runSchedule_apply {V : Type} (kernel : Nat × Nat → V) (s : List (Nat × Nat))
    (init : Nat × Nat → V) (p : Nat × Nat) :
    runSchedule kernel s init p = if p ∈ s then kernel p else init p := by
  unfold runSchedule
  induction s generalizing init with
  | nil => simp
  | cons x xs ih =>
    rw [List.foldl_cons, ih]
    by_cases hp : p ∈ xs
    · simp [hp]
    · by_cases hx : p = x
      · subst hx; simp [hp, writeSlot]
      · simp [hp, hx, writeSlot]

theorem runSchedule_congr {V : Type} (kernel : Nat × Nat → V) {s s' : List (Nat × Nat)}
    (h : ∀ p, p ∈ s ↔ p ∈ s') (init : Nat × Nat → V) :
    runSchedule kernel s init = runSchedule kernel s' init := by
  funext p
  simp only [runSchedule_apply, h]

end Skv
