import SkfemVerif.Model.DofLookup
import SkfemVerif.Lemmas.Np
import SkfemVerif.Lemmas.Dofs
/-
Lemmas for C07.  Core Lean only.  A lookup is the union of four selections `table[rows][:, ix]`, and every table is
one block of the numbering (`IsBlock`); its access lemmas read a selection off as a set of `dofNumber`s, and
`mem_flatten_view` glues the four: the theorems of C07 about the queries, `keep`/`drop` and `|` are one rewrite per
block with these.  From `getD_take_drop` on: which name stands at which position of the `dofnames` lists of the
wrapper elements, in terms of the name `_dofnames_to_rows` reads for a row.
-/
namespace Skv

theorem unique_of_sorted_dof {a : List Nat} (h : a.Pairwise (· < ·)) : unique a = a :=
  unique_of_sorted h

theorem sum_map_zero {l : List Nat} {f : Nat → Int} (h : ∀ x ∈ l, f x = 0) :
    (l.map f).sum = 0 := by
  rw [List.map_congr_left h, List.map_const', List.sum_replicate_int, Int.mul_zero]

theorem sum_sum_zero {m n : Nat} {f : Nat → Nat → Int} (h : ∀ i < m, ∀ j < n, f i j = 0) :
    ((List.range m).map (fun i => ((List.range n).map (fun j => f i j)).sum)).sum = 0 :=
  sum_map_zero (fun i hi => sum_map_zero (fun j hj =>
    h i (List.mem_range.mp hi) j (List.mem_range.mp hj)))

theorem exists_getD_gatherRows {count off : Nat} {conn : List (List Nat)} {ix : List Nat} {x : Nat}
    (hlen : ∀ row ∈ conn, ∀ k ∈ ix, k < row.length) :
    (∃ R ∈ gatherRows count off conn, ∃ k ∈ ix, R.getD k 0 = x) ↔
      ∃ a, a < count ∧ ∃ k ∈ ix, ∃ row ∈ conn, dofNumber count off a (row.getD k 0) = x := by
  simp only [mem_gatherRows]
  constructor
  · rintro ⟨_, ⟨row, hrow, a, ha, rfl⟩, k, hk, rfl⟩
    exact ⟨a, ha, k, hk, row, hrow, (getD_map_of_lt _ row k 0 0 (hlen row hrow k hk)).symm⟩
  · rintro ⟨a, ha, k, hk, row, hrow, rfl⟩
    exact ⟨_, ⟨row, hrow, a, ha, rfl⟩, k, hk, getD_map_of_lt _ row k 0 0 (hlen row hrow k hk)⟩

theorem exists_getD_dofTable {count n off : Nat} {ix : List Nat} {x : Nat} (hix : ∀ k ∈ ix, k < n) :
    (∃ R ∈ dofTable count n off, ∃ k ∈ ix, R.getD k 0 = x) ↔
      ∃ a, a < count ∧ ∃ k ∈ ix, dofNumber count off a k = x := by
  simp only [dofTable, List.mem_map, List.mem_range]
  constructor
  · rintro ⟨_, ⟨a, ha, rfl⟩, k, hk, rfl⟩
    exact ⟨a, ha, k, hk, (getD_map_range _ 0 (hix k hk)).symm⟩
  · rintro ⟨a, ha, k, hk, rfl⟩
    exact ⟨_, ⟨a, ha, rfl⟩, k, hk, getD_map_range _ 0 (hix k hk)⟩

theorem mem_selectDofs {table : List (List Nat)} {rows ix : List Nat} {x : Nat} :
    x ∈ selectDofs table rows ix ↔ ∃ r ∈ rows, ∃ e ∈ ix, (table.getD r []).getD e 0 = x := by
  simp only [selectDofs, List.mem_flatMap, List.mem_map]

theorem mem_gatherUnique {table : List (List Nat)} {ix : List Nat} {v : Nat} :
    v ∈ gatherUnique table ix ↔ ∃ row ∈ table, ∃ f ∈ ix, row.getD f 0 = v := by
  simp only [gatherUnique, mem_unique, List.mem_flatMap, List.mem_map]

theorem gatherUnique_congr {table : List (List Nat)} {a b : List Nat}
    (h : ∀ x, x ∈ a ↔ x ∈ b) : gatherUnique table a = gatherUnique table b := by
  unfold gatherUnique
  apply unique_congr
  intro v
  simp only [List.mem_flatMap, List.mem_map, h]

theorem mem_selectDofs_if {table : List (List Nat)} {rows ix : List Nat} {b : Bool} {x : Nat} :
    x ∈ selectDofs table rows (if b = true then ix else []) ↔
      b = true ∧ x ∈ selectDofs table rows ix := by
  cases b
  · rw [if_neg Bool.false_ne_true]
    exact ⟨fun h => by simp [selectDofs] at h, fun h => absurd h.1 Bool.false_ne_true⟩
  · rw [if_pos rfl]
    exact (and_iff_right rfl).symm

theorem mem_selectDofs_union {table : List (List Nat)} {rows a b : List Nat} {x : Nat} :
    x ∈ selectDofs table rows (unique (a ++ b)) ↔
      x ∈ selectDofs table rows a ∨ x ∈ selectDofs table rows b := by
  simp only [mem_selectDofs, mem_unique, List.mem_append, or_and_right, and_or_left, exists_or]

theorem expandFacets_fst (facets f2e : List (List Nat)) (ix : List Nat) (we : Bool) :
    (expandFacets facets f2e ix we).1 = gatherUnique facets ix := rfl

theorem expandFacets_snd (facets f2e : List (List Nat)) (ix : List Nat) (we : Bool) :
    (expandFacets facets f2e ix we).2 = if we then gatherUnique f2e ix else [] := rfl

theorem mem_rowsByName {dofnames names : List String} {skip : Bool} {n off r : Nat} :
    r ∈ rowsByName dofnames names skip n off ↔
      r < n ∧ (names.contains (dofnames.getD (r + off) "") = !skip) := by
  simp only [rowsByName, List.mem_filter, List.mem_range]
  cases skip <;> simp

theorem pairwise_rowsByName (dofnames names : List String) (skip : Bool) (n off : Nat) :
    (rowsByName dofnames names skip n off).Pairwise (· < ·) :=
  pairwise_filter_range n _

theorem mem_interRows {a b : List Nat} {x : Nat} : x ∈ interRows a b ↔ x ∈ a ∧ x ∈ b := by
  simp [interRows]

theorem pairwise_interRows {a : List Nat} (b : List Nat) (h : a.Pairwise (· < ·)) :
    (interRows a b).Pairwise (· < ·) :=
  List.Pairwise.filter _ h

theorem interRows_all (dn names : List String) (skip : Bool) (n off : Nat) :
    interRows (rowsByName dn [] true n off) (rowsByName dn names skip n off)
      = rowsByName dn names skip n off := by
  apply sorted_ext (pairwise_interRows _ (pairwise_rowsByName _ _ _ _ _))
    (pairwise_rowsByName _ _ _ _ _)
  intro x
  rw [mem_interRows, mem_rowsByName, mem_rowsByName]
  simp

theorem nRowsNodal_eq (c : DofCounts) (tp : Topo) : nRowsNodal c tp = c.nodal := by
  simp [nRowsNodal, nodalDofs, length_dofTable]

theorem nRowsFacet_eq (c : DofCounts) (tp : Topo) : nRowsFacet c tp = c.facet := by
  unfold nRowsFacet facetDofs useFacets
  by_cases h : c.facet > 0
  · simp [h, length_dofTable]
  · have : c.facet = 0 := by omega
    simp [this]

theorem nRowsEdge_eq (c : DofCounts) (tp : Topo) :
    nRowsEdge c tp = if useEdges c tp then c.edge else 0 := by
  unfold nRowsEdge edgeDofs
  by_cases h : useEdges c tp = true
  · simp [h, length_dofTable]
  · simp [h]

theorem nRowsInterior_eq (c : DofCounts) (tp : Topo) : nRowsInterior c tp = c.interior := by
  simp [nRowsInterior, interiorDofs, length_dofTable]

theorem lt_nRowsEdge {c : DofCounts} {tp : Topo} {b : Nat} :
    b < nRowsEdge c tp ↔ useEdges c tp = true ∧ b < c.edge := by
  rw [nRowsEdge_eq]
  cases useEdges c tp <;> simp

theorem mem_flatten_view {c : DofCounts} {tp : Topo} {v : View} {x : Nat} :
    x ∈ v.flatten c tp ↔
      x ∈ selectDofs (nodalDofs c tp) v.nodalRows v.nodalIx
      ∨ x ∈ selectDofs (facetDofs c tp) v.facetRows v.facetIx
      ∨ x ∈ selectDofs (edgeDofs c tp) v.edgeRows v.edgeIx
      ∨ x ∈ selectDofs (interiorDofs c tp) v.interiorRows v.interiorIx := by
  simp only [View.flatten, mem_unique, List.mem_append]
  simp only [or_assoc]

/-- all the proofs need to know of `nodalDofs`, `facetDofs`, `edgeDofs`, `interiorDofs`: a block of the view is
    the `dofTable` of its counts, or empty (no such DOFs) -/
def IsBlock (table : List (List Nat)) (count n off : Nat) : Prop :=
  table = dofTable count n off ∨ table = []

theorem isBlock_nodal (c : DofCounts) (tp : Topo) : IsBlock (nodalDofs c tp) c.nodal tp.nverts 0 :=
  Or.inl rfl

theorem isBlock_facet (c : DofCounts) (tp : Topo) :
    IsBlock (facetDofs c tp) c.facet tp.nfacets (offFacet c tp) := by
  unfold facetDofs IsBlock; split <;> simp

theorem isBlock_edge (c : DofCounts) (tp : Topo) :
    IsBlock (edgeDofs c tp) c.edge tp.nedges (offEdge c tp) := by
  unfold edgeDofs IsBlock; split <;> simp

theorem isBlock_interior (c : DofCounts) (tp : Topo) :
    IsBlock (interiorDofs c tp) c.interior tp.nt (offInterior c tp) :=
  Or.inl rfl

namespace IsBlock
variable {table : List (List Nat)} {count n off : Nat} {rows ix : List Nat} {x : Nat}

theorem length_le (hT : IsBlock table count n off) : table.length ≤ count := by
  rcases hT with h | h <;> subst h
  · exact Nat.le_of_eq (length_dofTable _ _ _)
  · exact Nat.zero_le _

theorem mem_select (hT : IsBlock table count n off) (hrows : ∀ r ∈ rows, r < table.length)
    (hix : ∀ e ∈ ix, e < n) :
    x ∈ selectDofs table rows ix ↔ ∃ r ∈ rows, ∃ e ∈ ix, dofNumber count off r e = x := by
  rw [mem_selectDofs]
  refine exists_congr fun r => and_congr_right fun hr => exists_congr fun e =>
    and_congr_right fun he => ?_
  rcases hT with h | h <;> subst h
  · rw [dofTable_getD count n off r e (length_dofTable count n off ▸ hrows r hr) (hix e he)]
  · exact absurd (hrows r hr) (Nat.not_lt_zero _)

/-- the guards `nodal_dofs == 0`, … of the queries are void once the rows point into the table: without DOFs of
    the kind there are no rows -/
theorem select_guard (hT : IsBlock table count n off) (hrows : ∀ r ∈ rows, r < table.length)
    (ix : List Nat) :
    selectDofs table rows (if count = 0 then [] else ix) = selectDofs table rows ix := by
  split
  · next h0 =>
    cases rows with
    | nil => rfl
    | cons r rs =>
      exact absurd (Nat.lt_of_lt_of_le (hrows r (by simp)) hT.length_le) (h0 ▸ Nat.not_lt_zero _)
  · rfl

/-- `np.unique(conn[:, ix])` -/
theorem mem_select_gather {conn : List (List Nat)} (hT : IsBlock table count n off)
    (hrows : ∀ r ∈ rows, r < table.length) (hconn : ∀ row ∈ conn, ∀ f ∈ ix, row.getD f 0 < n) :
    x ∈ selectDofs table rows (gatherUnique conn ix) ↔
      ∃ a ∈ rows, ∃ f ∈ ix, ∃ row ∈ conn, dofNumber count off a (row.getD f 0) = x := by
  rw [hT.mem_select hrows (by
    intro e he
    obtain ⟨row, hrow, f, hf, rfl⟩ := mem_gatherUnique.mp he
    exact hconn row hrow f hf)]
  simp only [mem_gatherUnique]
  constructor
  · rintro ⟨a, ha, _, ⟨row, hrow, f, hf, rfl⟩, h⟩; exact ⟨a, ha, f, hf, row, hrow, h⟩
  · rintro ⟨a, ha, f, hf, row, hrow, h⟩; exact ⟨a, ha, _, ⟨row, hrow, f, hf, rfl⟩, h⟩

/-- rows restricted by `_dofnames_to_rows`; `nm` names a DOF as read at offset `noff` of the element's list -/
theorem mem_select_named (hT : IsBlock table count n off) {nr : Nat} (hnr : table.length = nr)
    (hrows : ∀ r ∈ rows, r < nr) (hix : ∀ e ∈ ix, e < n) {nm : Nat → String}
    {dn names : List String} {skip : Bool} {noff : Nat}
    (hname : ∀ a < nr, ∀ e < n, nm (dofNumber count off a e) = rowName dn noff a) :
    x ∈ selectDofs table (interRows rows (rowsByName dn names skip nr noff)) ix ↔
      x ∈ selectDofs table rows ix ∧ names.contains (nm x) = !skip := by
  subst hnr
  rw [hT.mem_select (fun a ha => hrows a (mem_interRows.mp ha).1) hix, hT.mem_select hrows hix]
  constructor
  · rintro ⟨a, ha, e, he, rfl⟩
    obtain ⟨ha1, ha2⟩ := mem_interRows.mp ha
    exact ⟨⟨a, ha1, e, he, rfl⟩, hname a (hrows a ha1) e (hix e he) ▸ (mem_rowsByName.mp ha2).2⟩
  · rintro ⟨⟨a, ha, e, he, rfl⟩, hn⟩
    rw [hname a (hrows a ha) e (hix e he)] at hn
    exact ⟨a, mem_interRows.mpr ⟨ha, mem_rowsByName.mpr ⟨hrows a ha, hn⟩⟩, e, he, rfl⟩

end IsBlock

theorem selectDofs_nil_table (rows ix : List Nat) (x : Nat) (hrows : rows = []) :
    x ∉ selectDofs ([] : List (List Nat)) rows ix := by
  subst hrows
  simp [selectDofs]

theorem selectDofs_nil_ix (table : List (List Nat)) (rows : List Nat) :
    selectDofs table rows [] = [] := by
  simp [selectDofs]

theorem mem_firstOccs {l : List String} {x : String} : x ∈ firstOccs l ↔ x ∈ l := by
  induction l with
  | nil => simp [firstOccs]
  | cons a as ih =>
    simp only [firstOccs, List.mem_cons, List.mem_filter, ih, bne_iff_ne, ne_eq]
    by_cases h : x = a
    · simp [h]
    · simp [h]

theorem nodup_firstOccs (l : List String) : (firstOccs l).Nodup := by
  induction l with
  | nil => simp [firstOccs]
  | cons a as ih =>
    simp only [firstOccs, List.nodup_cons, List.mem_filter, bne_self_eq_false, Bool.false_eq_true,
      and_false, not_false_eq_true, true_and]
    exact List.Pairwise.filter _ ih

theorem mem_nonzero {tt : List Bool} {i : Nat} :
    i ∈ nonzero tt ↔ i < tt.length ∧ tt.getD i false = true := by
  simp [nonzero]

theorem pairwise_nonzero (tt : List Bool) : (nonzero tt).Pairwise (· < ·) :=
  pairwise_filter_range _ _

theorem normalizeAll_cons_eq_some {k : SelKind} {tags : List (String × List Nat)} {bnd : List Nat}
    {n : Nat} {s : Sel} {ss : List Sel} {l : List Nat} :
    normalizeAll k tags bnd n (s :: ss) = some l ↔
      ∃ a b, normalize k tags bnd n s = some a ∧ normalizeAll k tags bnd n ss = some b
        ∧ l = a ++ b := by
  rw [normalizeAll]
  cases normalize k tags bnd n s <;> cases normalizeAll k tags bnd n ss <;> simp [eq_comm]

theorem mem_normalizeAll (k : SelKind) (tags : List (String × List Nat)) (bnd : List Nat) (n : Nat) :
    ∀ (ss : List Sel) (l : List Nat), normalizeAll k tags bnd n ss = some l →
      ∀ x, x ∈ l ↔ ∃ s ∈ ss, ∃ ls, normalize k tags bnd n s = some ls ∧ x ∈ ls
  | [], l, h, x => by
    cases h
    simp
  | s :: ss, l, h, x => by
    obtain ⟨a, b, hs, hss, rfl⟩ := normalizeAll_cons_eq_some.mp h
    simp only [List.mem_append, List.mem_cons, exists_eq_or_imp, hs, Option.some.injEq,
      exists_eq_left', mem_normalizeAll k tags bnd n ss b hss x]

theorem normalizeAll_some_of (k : SelKind) (tags : List (String × List Nat)) (bnd : List Nat)
    (n : Nat) : ∀ (ss : List Sel) (l : List Nat), normalizeAll k tags bnd n ss = some l →
      ∀ s ∈ ss, ∃ ls, normalize k tags bnd n s = some ls
  | [], _, _, s, hs => by simp at hs
  | s0 :: ss, l, h, s, hs => by
    obtain ⟨a, b, h0, hss, _⟩ := normalizeAll_cons_eq_some.mp h
    rcases List.mem_cons.mp hs with rfl | hs
    · exact ⟨a, h0⟩
    · exact normalizeAll_some_of k tags bnd n ss b hss s hs

theorem getD_take_drop (l : List String) (m k j : Nat) (hj : j < k) :
    ((l.drop m).take k).getD j "" = l.getD (j + m) "" := by
  simp [List.getD_eq_getElem?_getD, hj, List.getElem?_drop, Nat.add_comm]

theorem nodalNames_getD {e : ElemNames} {j : Nat} (h : j < e.counts.nodal) :
    e.nodalNames.getD j "" = rowName e.names 0 j := getD_take_drop e.names 0 _ j h

theorem facetNames_getD {e : ElemNames} {j : Nat} (h : j < e.counts.facet) :
    e.facetNames.getD j "" = rowName e.names e.counts.nodal j := getD_take_drop _ _ _ j h

theorem edgeNames_getD {e : ElemNames} {j : Nat} (h : j < e.counts.edge) :
    e.edgeNames.getD j "" = rowName e.names (e.counts.nodal + e.counts.facet) j :=
  getD_take_drop _ _ _ j h

theorem interiorNames_getD {e : ElemNames} {j : Nat} (h : j < e.counts.interior) :
    e.interiorNames.getD j ""
      = rowName e.names (e.counts.nodal + e.counts.facet + e.counts.edge) j :=
  getD_take_drop _ _ _ j h

theorem restNames_getD (e : ElemNames) (j : Nat) :
    e.restNames.getD j "" = rowName e.names (e.counts.nodal + e.counts.facet + e.counts.edge) j := by
  simp [ElemNames.restNames, rowName, List.getD_eq_getElem?_getD, List.getElem?_drop, Nat.add_comm]

theorem length_kindNamesFrom (sel : ElemNames → List String) :
    ∀ (i0 : Nat) (cs : List ElemNames),
      (kindNamesFrom sel i0 cs).length = (cs.map (fun e => (sel e).length)).sum
  | _, [] => by simp [kindNamesFrom]
  | i0, e :: es => by
    simp [kindNamesFrom, length_kindNamesFrom sel (i0 + 1) es]

theorem length_kindNames {sel : ElemNames → List String} {cnt : ElemNames → Nat}
    {cs : List ElemNames} (hlen : ∀ e ∈ cs, (sel e).length = cnt e) :
    (kindNames sel cs).length = (cs.map cnt).sum := by
  rw [kindNames, length_kindNamesFrom]
  exact congrArg List.sum (List.map_congr_left hlen)

/-- the rows of one kind of a composite element are those of the components one after the other (`B`: what
    follows them); row `j` of component `i` is called `name^(i+1)` -/
theorem kindNamesFrom_getD (sel : ElemNames → List String) (cnt : ElemNames → Nat) (B : List String) :
    ∀ (i0 : Nat) (cs : List ElemNames) (_ : ∀ e ∈ cs, (sel e).length = cnt e) (i j : Nat)
      (hi : i < cs.length) (_ : j < cnt cs[i]),
      (kindNamesFrom sel i0 cs ++ B).getD (((cs.take i).map cnt).sum + j) ""
        = suffixName (i0 + i) ((sel cs[i]).getD j "")
  | _, [], _, i, _, hi, _ => by simp at hi
  | i0, e :: es, hlen, 0, j, _, hj => by
    have hj' : j < (sel e).length := (hlen e List.mem_cons_self).symm ▸ hj
    rw [kindNamesFrom, List.take_zero, List.map_nil, List.sum_nil, Nat.zero_add, List.append_assoc,
      getD_append_left _ _ "" (by rwa [List.length_map]), getD_map_of_lt _ _ j "" "" hj']
    rfl
  | i0, e :: es, hlen, i + 1, j, hi, hj => by
    rw [kindNamesFrom, List.take_succ_cons, List.map_cons, List.sum_cons, Nat.add_assoc,
      List.append_assoc, getD_append_right ((List.length_map _).trans (hlen e List.mem_cons_self)),
      kindNamesFrom_getD sel cnt B (i0 + 1) es (fun e he => hlen e (List.mem_cons_of_mem _ he)) i j
        (Nat.lt_of_succ_lt_succ hi) hj, List.getElem_cons_succ, Nat.add_assoc, Nat.add_comm 1 i]

/-- the same for a kind standing between the name lists `A` and `C`; `offc e` is the offset of the kind in the
    component's own list -/
theorem composite_block (cs : List ElemNames) (sel : ElemNames → List String)
    (cnt offc : ElemNames → Nat)
    (hlen : ∀ e ∈ cs, (sel e).length = cnt e)
    (hget : ∀ e ∈ cs, ∀ j < cnt e, (sel e).getD j "" = rowName e.names (offc e) j)
    (A C : List String) (hnames : compositeNames cs = A ++ (kindNames sel cs ++ C))
    (i j : Nat) (hi : i < cs.length) (hj : j < cnt cs[i]) :
    rowName (compositeNames cs) A.length (((cs.take i).map cnt).sum + j)
      = suffixName i (rowName cs[i].names (offc cs[i]) j) := by
  rw [rowName, hnames, Nat.add_comm, getD_append_right rfl, kindNames,
    kindNamesFrom_getD sel cnt C 0 cs hlen i j hi hj, Nat.zero_add, hget _ (List.getElem_mem hi) j hj]

theorem length_replicateNames (k : Nat) (l : List String) :
    (replicateNames k l).length = k * l.length :=
  length_flatten_replicate k l

theorem replicateNames_getD (k : Nat) (l : List String) (i a : Nat) (hi : i < k)
    (ha : a < l.length) : (replicateNames k l).getD (i * l.length + a) "" = l.getD a "" := by
  unfold replicateNames
  rw [List.getD_eq_getElem?_getD, flatten_getElem?_of_uniform _ l.length
    (fun r hr => List.eq_of_mem_replicate hr ▸ rfl) i a ha, List.getElem?_replicate, if_pos hi,
    Option.bind_some, ← List.getD_eq_getElem?_getD]

theorem getD_replicateNames_append (l B : List String) {k i a : Nat} (hi : i < k)
    (ha : a < l.length) :
    (replicateNames k l ++ B).getD (i * l.length + a) "" = l.getD a "" := by
  rw [getD_append_left _ _ "" (by rw [length_replicateNames]; exact mul_add_lt_mul ha hi),
    replicateNames_getD k l i a hi ha]

theorem vectorNames_getD (dim : Nat) (names : List String) (r j : Nat) (hr : r < names.length)
    (hj : j < dim) :
    (vectorNames dim names).getD (r * dim + j) "" = suffixName j (names.getD r "") := by
  have := getElem?_flatMap_map names (List.range dim) (fun nm j => suffixName j nm) r j
    (by rwa [List.length_range])
  simp only [List.length_range, List.getElem_range, List.getElem?_eq_getElem hr] at this
  rw [List.getD_eq_getElem?_getD, vectorNames, this, getD_eq_getElem names "" hr]
  rfl

end Skv
