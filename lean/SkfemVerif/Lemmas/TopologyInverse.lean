import SkfemVerif.Lemmas.Topology
/-
The facet-to-cell table `f2t` of `Mesh.build_inverse` (core Lean only): what the two rows of `buildInverse` hold
at a stored facet, namely `firstCell` and `lastCell`, the cells (columns of the C-order flattened slot table) of
the first and of the last occurrence of the facet number.  The list facts on first and last occurrences are in
`Lemmas/List.lean`.
-/
namespace Skv

theorem length_buildInverse (nt : Nat) (mapping : List (List Nat)) :
    (buildInverse nt mapping).1.length = listMax mapping.flatten + 1
      ∧ (buildInverse nt mapping).2.length = listMax mapping.flatten + 1 := by
  simp [buildInverse]

theorem buildInverse_fst_getD (nt : Nat) (mapping : List (List Nat)) (f : Nat)
    (hf : f < listMax mapping.flatten + 1) :
    (buildInverse nt mapping).1.getD f 0 = (firstCell nt mapping.flatten f : Int) :=
  getD_map_range _ 0 hf

theorem buildInverse_snd_getD (nt : Nat) (mapping : List (List Nat)) (f : Nat)
    (hf : f < listMax mapping.flatten + 1) :
    (buildInverse nt mapping).2.getD f 0 =
      (if firstCell nt mapping.flatten f = lastCell nt mapping.flatten f then (-1 : Int)
        else (lastCell nt mapping.flatten f : Int)) :=
  getD_map_range _ 0 hf

end Skv
