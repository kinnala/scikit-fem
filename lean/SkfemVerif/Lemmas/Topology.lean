import SkfemVerif.Model.Topology
import SkfemVerif.Lemmas.Np
/-
`Mesh.build_entities` (Model/Topology.lean) in closed form (core Lean only).  `indexing` is the
table (slot, cell) ↦ vertex tuple stored row after row, so `np.unique(..., return_inverse=True)`
followed by the reshape gives `entityMapping_eq`: entry `(i, k)` of `t2f`/`t2e` is the position, in
the sorted entity table, of the sorted vertex tuple of local entity `i` of cell `k`; and
`mem_entitiesSorted`: the table holds exactly those tuples.  The C11 theorems are read off these two.
-/
namespace Skv

theorem length_indexing (cells ref : List (List Nat)) :
    (indexing cells ref).length = ref.length * cells.length :=
  length_flatMap_map ..

theorem indexing_getElem (cells ref : List (List Nat)) (i k : Nat)
    (hi : i < ref.length) (hk : k < cells.length) :
    ∃ h : i * cells.length + k < (indexing cells ref).length,
      (indexing cells ref)[i * cells.length + k] = slotCol cells[k] ref[i] :=
  getElem_flatMap_map ref cells (fun slot c => slotCol c slot) i k hi hk

theorem mem_indexing {col : List Nat} {cells ref : List (List Nat)} :
    col ∈ indexing cells ref ↔ ∃ slot ∈ ref, ∃ c ∈ cells, col = slotCol c slot := by
  simp only [indexing, List.mem_flatMap, List.mem_map, eq_comm]

theorem sortedIndexing_eq (cells ref : List (List Nat)) :
    sortedIndexing cells ref
      = ref.flatMap fun slot => cells.map fun c => sortCol (slotCol c slot) := by
  simp only [sortedIndexing, indexing, List.map_flatMap, List.map_map]
  rfl

theorem length_sortedIndexing (cells ref : List (List Nat)) :
    (sortedIndexing cells ref).length = ref.length * cells.length := by
  rw [sortedIndexing_eq, length_flatMap_map]

theorem sortedIndexing_getElem (cells ref : List (List Nat)) (i k : Nat)
    (hi : i < ref.length) (hk : k < cells.length) :
    ∃ h : i * cells.length + k < (sortedIndexing cells ref).length,
      (sortedIndexing cells ref)[i * cells.length + k] = sortCol (slotCol cells[k] ref[i]) := by
  simp only [sortedIndexing_eq]
  exact getElem_flatMap_map ref cells (fun slot c => sortCol (slotCol c slot)) i k hi hk

theorem mem_sortedIndexing {col : List Nat} {cells ref : List (List Nat)} :
    col ∈ sortedIndexing cells ref ↔ ∃ slot ∈ ref, ∃ c ∈ cells, col = sortCol (slotCol c slot) := by
  simp only [sortedIndexing_eq, List.mem_flatMap, List.mem_map, eq_comm]

theorem mem_entitiesSorted {ent : List Nat} {cells ref : List (List Nat)} :
    ent ∈ entitiesSorted cells ref ↔ ∃ slot ∈ ref, ∃ c ∈ cells, ent = sortCol (slotCol c slot) :=
  mem_unique.trans mem_sortedIndexing

theorem entityOfColumn_eq (cells ref : List (List Nat)) :
    entityOfColumn cells ref = ref.flatMap fun slot => cells.map fun c =>
      (entitiesSorted cells ref).idxOf (sortCol (slotCol c slot)) := by
  rw [entityOfColumn, uniqueInverse, sortedIndexing_eq, List.map_flatMap]
  simp only [List.map_map, entitiesSorted, sortedIndexing_eq, Function.comp_def, idxOf_inst]

theorem entityMapping_eq (cells ref : List (List Nat)) :
    entityMapping cells ref = ref.map fun slot => cells.map fun c =>
      (entitiesSorted cells ref).idxOf (sortCol (slotCol c slot)) := by
  rw [← reshapeRows_flatMap_map, entityMapping, entityOfColumn_eq]

theorem length_entityMapping (cells ref : List (List Nat)) :
    (entityMapping cells ref).length = ref.length := by
  rw [entityMapping_eq, List.length_map]

theorem entityMapping_entry (cells ref : List (List Nat)) (i k : Nat)
    (hi : i < ref.length) (hk : k < cells.length) :
    ∃ (h1 : i < (entityMapping cells ref).length)
      (h2 : k < ((entityMapping cells ref)[i]).length),
      ((entityMapping cells ref)[i])[k]
        = (entitiesSorted cells ref).idxOf (sortCol (slotCol cells[k] ref[i])) := by
  simp only [entityMapping_eq, List.getElem_map, List.length_map, exists_prop, and_true]
  exact ⟨hi, hk⟩

theorem mem_flatten_entityMapping {cells ref : List (List Nat)} {x : Nat} :
    x ∈ (entityMapping cells ref).flatten ↔ x < (entitiesSorted cells ref).length := by
  simp only [entityMapping_eq, ← List.flatMap_def, List.mem_flatMap, List.mem_map]
  constructor
  · rintro ⟨slot, hs, c, hc, rfl⟩
    exact List.idxOf_lt_length_of_mem (mem_entitiesSorted.mpr ⟨slot, hs, c, hc, rfl⟩)
  · intro hx
    obtain ⟨slot, hs, c, hc, e⟩ := mem_entitiesSorted.mp (List.getElem_mem hx)
    exact ⟨slot, hs, c, hc, e ▸ (nodup_unique _).idxOf_getElem x hx⟩

/-- `np.max(t2f) + 1` is the number of entities -/
theorem listMax_flatten_entityMapping (cells ref : List (List Nat))
    (h : 0 < (entitiesSorted cells ref).length) :
    listMax (entityMapping cells ref).flatten + 1 = (entitiesSorted cells ref).length := by
  have := listMax_eq (mem_flatten_entityMapping.mpr (Nat.sub_lt h Nat.one_pos))
    fun x hx => Nat.le_sub_one_of_lt (mem_flatten_entityMapping.mp hx)
  omega

/-- `sort=False` (hexahedra) stores, entity by entity, a rearrangement of the sorted tuple -/
theorem map_sortCol_entitiesUnsorted (cells ref : List (List Nat)) :
    (entitiesUnsorted cells ref).map sortCol = entitiesSorted cells ref := by
  rw [entitiesUnsorted, ← map_getD_map sortCol _ [] [] fun i hi =>
    List.length_map sortCol ▸ lt_length_of_mem_uniqueIndex hi]
  exact uniqueIndex_spec (sortedIndexing cells ref) []

end Skv
