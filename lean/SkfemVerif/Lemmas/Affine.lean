import SkfemVerif.Model.Affine
import Mathlib.LinearAlgebra.Matrix.Determinant.Basic
import Mathlib.Tactic.FieldSimp
import Mathlib.Tactic.IntervalCases
import Mathlib.Tactic.LinearCombination
/-
Lemmas for C10, and the vocabulary of its statements on normals: `RefCell`, `refCells`, `tabDot`, `refOutward`
(the reference cells of `refdom.py` with their integer tables).  The sums `sumN` of the model are `Finset` sums, so
the matrix-vector lemmas hold in every dimension; whatever follows the closed-form inverse uses `inv A · A = 1` and
`A · inv A = 1` only, never the formulas again.

A `match` on numerals is compiled to a chain of `dite`, which `simp` reduces only by trying the alternatives one
after another; under a binder (`fun k => phi k X`) all of them are tried in vain at every visit.  So sums are
unrolled first (`sumN_succ`), the shape functions are unfolded afterwards at numerals, and an entry of an integer
table is read through the cast (`refVertex_eq_cast`, …), never by unfolding `ofInt` and `nat`.
-/
namespace Skv.Map
open Skv.Gen.Map

section Sum
variable {M : Type} [AddCommMonoid M]

theorem sumN_succ (n : Nat) (f : Nat → M) : sumN (n + 1) f = sumN n f + f n := by
  simp only [sumN, List.range_succ, List.foldl_append, List.foldl_cons, List.foldl_nil]

theorem sumN_eq_sum (n : Nat) (f : Nat → M) : sumN n f = ∑ k ∈ Finset.range n, f k := by
  induction n with
  | zero => rfl
  | succ n ih => rw [sumN_succ, Finset.sum_range_succ, ih]

theorem sumN_congr {n : Nat} {f g : Nat → M} (h : ∀ k < n, f k = g k) : sumN n f = sumN n g := by
  rw [sumN_eq_sum, sumN_eq_sum]
  exact Finset.sum_congr rfl fun k hk => h k (Finset.mem_range.mp hk)

end Sum

section Field
variable {K : Type} [Field K]

@[simp] theorem sumN_zero (f : Nat → K) : sumN 0 f = 0 := rfl

theorem dot_congr {d : Nat} (n : Nat → K) {x y : Nat → K} (h : ∀ i < d, x i = y i) :
    dot d n x = dot d n y := sumN_congr fun i hi => by rw [h i hi]

theorem dot_sub (d : Nat) (n x y : Nat → K) :
    dot d n x = dot d n y + dot d n (fun j => x j - y j) := by
  simp only [dot, sumN_eq_sum, ← Finset.sum_add_distrib]
  exact Finset.sum_congr rfl fun j _ => by ring

theorem lenSq_smul (d : Nat) (c : K) (n : Nat → K) :
    lenSq d (fun j => c * n j) = c * c * lenSq d n := by
  simp only [lenSq, dot, sumN_eq_sum, Finset.mul_sum]
  exact Finset.sum_congr rfl fun j _ => by ring

theorem dot_delivered (d : Nat) (n w : Nat → K) (len : K) :
    dot d (delivered n len) w = dot d n w / len := by
  simp only [dot, delivered, sumN_eq_sum, div_eq_mul_inv, Finset.sum_mul]
  exact Finset.sum_congr rfl fun j _ => by ring

theorem lenSq_delivered (d : Nat) (n : Nat → K) (len : K) (hlen : len * len = lenSq d n)
    (h0 : len ≠ 0) : lenSq d (delivered n len) = 1 := by
  rw [show delivered n len = fun j => 1 / len * n j from funext fun j => mul_comm _ _, lenSq_smul,
    ← hlen]
  field_simp

theorem mulVec_add (c : Nat) (A : Nat → Nat → K) (X H : Nat → K) (i : Nat) :
    mulVec c A (fun j => X j + H j) i = mulVec c A X i + mulVec c A H i := by
  simp only [mulVec, sumN_eq_sum, ← Finset.sum_add_distrib, mul_add]

theorem mulVec_sub (c : Nat) (A : Nat → Nat → K) (X Y : Nat → K) (i : Nat) :
    mulVec c A (fun j => X j - Y j) i = mulVec c A X i - mulVec c A Y i := by
  simp only [mulVec, sumN_eq_sum, ← Finset.sum_sub_distrib, mul_sub]

theorem mulVec_mulMat (c : Nat) (A B : Nat → Nat → K) (u : Nat → K) (i : Nat) :
    mulVec c (mulMat c A B) u i = mulVec c A (mulVec c B u) i := by
  simp only [mulVec, mulMat, sumN_eq_sum, Finset.sum_mul, Finset.mul_sum, mul_assoc]
  exact Finset.sum_comm

theorem mulVec_one {c : Nat} {M : Nat → Nat → K} {i : Nat} (hi : i < c)
    (h : ∀ j < c, M i j = if i = j then 1 else 0) (u : Nat → K) : mulVec c M u i = u i := by
  unfold mulVec
  rw [sumN_congr fun j hj => by rw [h j hj], sumN_eq_sum]
  simp only [ite_mul, one_mul, zero_mul, Finset.sum_ite_eq, Finset.mem_range, hi, if_true]

theorem dot_rawNormal (d : Nat) (M : Nat → Nat → K) (N w : Nat → K) :
    dot d (rawNormal true d M N) w = dot d N (mulVec d M w) := by
  simp only [dot, rawNormal, mulVec, sumN_eq_sum, if_true, Finset.sum_mul, Finset.mul_sum]
  rw [Finset.sum_comm]
  exact Finset.sum_congr rfl fun i _ => Finset.sum_congr rfl fun j _ => by ring

theorem normal_transport {d : Nat} {A B : Nat → Nat → K}
    (h : ∀ i < d, ∀ j < d, mulMat d B A i j = if i = j then 1 else 0) (N u : Nat → K) :
    dot d (rawNormal true d B N) (mulVec d A u) = dot d N u := by
  rw [dot_rawNormal]
  exact dot_congr N fun i hi => by rw [← mulVec_mulMat, mulVec_one hi (h i hi)]

theorem nat_eq_cast (n : Nat) : (nat n : K) = (n : K) := by
  induction n with
  | zero => exact Nat.cast_zero.symm
  | succ n ih =>
    cases n with
    | zero => exact Nat.cast_one.symm
    | succ m => rw [nat, ih, Nat.cast_succ (m + 1)]

theorem ofInt_eq_cast (z : Int) : (ofInt z : K) = (z : K) := by
  unfold ofInt
  simp only [nat_eq_cast, Nat.cast_natAbs]
  split
  · rw [abs_of_neg ‹_›, Int.cast_neg, neg_neg]
  · rw [abs_of_nonneg (not_lt.1 ‹_›)]

theorem tabEntry_eq_cast (t : List (List Int)) (i j : Nat) :
    (tabEntry t i j : K) = (((t.getD i []).getD j 0 : Int) : K) := ofInt_eq_cast _

theorem refVertex_eq_cast (P : List (List Int)) (k j : Nat) :
    (refVertex P k j : K) = (((P.getD k []).getD j 0 : Int) : K) := ofInt_eq_cast _

theorem cast_sumN (d : Nat) (f : Nat → Int) :
    ((sumN d f : Int) : K) = sumN d (fun j => ((f j : Int) : K)) := by
  rw [sumN_eq_sum, sumN_eq_sum, Int.cast_sum]

theorem cellF_vertices (v : Nat → Nat → K) :
    (∀ k ≤ 1, ∀ i < 1, cellF 1 v (refVertex refLineP k) i = v k i)
    ∧ (∀ k ≤ 2, ∀ i < 2, cellF 2 v (refVertex refTriP k) i = v k i)
    ∧ (∀ k ≤ 3, ∀ i < 3, cellF 3 v (refVertex refTetP k) i = v k i) := by
  refine ⟨?_, ?_, ?_⟩ <;> intro k hk i hi <;> interval_cases k <;>
    simp only [cellF, affF, mulVec, affA, affb, refVertex_eq_cast, refLineP, refTriP, refTetP, sumN_succ,
      sumN_zero, List.getD_cons_succ, List.getD_cons_zero, Int.cast_one, Int.cast_zero] <;>
    ring

theorem mul_div_row2 (D a b x y : K) (hD : D ≠ 0) : D * (a / D * x + b / D * y) = a * x + b * y := by
  field_simp

theorem mul_div_row3 (D a b c x y z : K) (hD : D ≠ 0) :
    D * (a / D * x + b / D * y + c / D * z) = a * x + b * y + c * z := by
  field_simp

def toM (d : Nat) (A : Nat → Nat → K) : Matrix (Fin d) (Fin d) K := Matrix.of fun i j => A i j

theorem toM_mulMat (d : Nat) (A B : Nat → Nat → K) : toM d (mulMat d A B) = toM d A * toM d B := by
  ext i j
  rw [Matrix.mul_apply]
  exact (sumN_eq_sum d _).trans (Finset.sum_range fun k => A i k * B k j)

theorem toM_eq_one {d : Nat} {M : Nat → Nat → K} :
    toM d M = 1 ↔ ∀ i < d, ∀ j < d, M i j = if i = j then 1 else 0 := by
  simp only [← Matrix.ext_iff, toM, Matrix.of_apply, Matrix.one_apply, Fin.forall_iff, Fin.mk.injEq]

/-- every entry of `inv A · A` is a row of cofactors over `det A` against a column of `A`; `affInv2`, `affInv3`
    are not unfolded: unifying with `mul_div_row2/3` evaluates their entries -/
theorem affInv_mul (d : Nat) (hd : d = 1 ∨ d = 2 ∨ d = 3) (A : Nat → Nat → K) (h : affDet d A ≠ 0)
    (i j : Nat) (hi : i < d) (hj : j < d) : mulMat d (affInv d A) A i j = if i = j then 1 else 0 := by
  rcases hd with rfl | rfl | rfl
  · have h' : A 0 0 ≠ 0 := h
    interval_cases i; interval_cases j
    simp only [mulMat, affInv, affInv1, sumN_succ, sumN_zero, zero_add, if_true]
    field_simp
  · have h' : affDet2 A ≠ 0 := h
    simp only [mulMat, affInv, sumN_succ, sumN_zero, zero_add]
    interval_cases i <;> interval_cases j <;>
      simp only [↓reduceIte, one_ne_zero, zero_ne_one] <;>
      apply mul_left_cancel₀ h' <;> refine (mul_div_row2 _ _ _ _ _ h').trans ?_ <;> rw [affDet2] <;> ring
  · have h' : affDet3 A ≠ 0 := h
    simp only [mulMat, affInv, sumN_succ, sumN_zero, zero_add]
    interval_cases i <;> interval_cases j <;>
      simp only [↓reduceIte, OfNat.ofNat_ne_zero, OfNat.zero_ne_ofNat, OfNat.one_ne_ofNat,
        OfNat.ofNat_ne_one, one_ne_zero, zero_ne_one] <;>
      apply mul_left_cancel₀ h' <;> refine (mul_div_row3 _ _ _ _ _ _ _ h').trans ?_ <;> rw [affDet3] <;>
      ring

theorem isoDet_eq_affDet (d : Nat) (J : Nat → Nat → K) : isoDet d J = affDet d J := by
  unfold isoDet affDet
  split <;> rfl

theorem isoInv_eq_affInv (d : Nat) (J : Nat → Nat → K) : isoInv d J = affInv d J := by
  unfold isoInv affInv
  split <;> rfl

theorem gammaIso_eq_isoF (P : List (List Int)) (n : Nat) (psi : Nat → (Nat → K) → K) (loc : Nat → Nat)
    (s : Nat → K) : gammaIso P n psi loc s = isoF n psi (fun k => refVertex P (loc k)) s := rfl

theorem isoF_lineP1 (w : Nat → Nat → K) (s : Nat → K) (i : Nat) :
    isoF lineP1N lineP1Phi w s i = w 0 i * (1 - s 0) + w 1 i * s 0 := by
  simp only [isoF, lineP1N, lineP1Phi, sumN_succ, sumN_zero]; ring

theorem isoF_quad (w : Nat → Nat → K) (s : Nat → K) (i : Nat) :
    isoF quad1N quad1Phi w s i
      = w 0 i + s 0 * (w 1 i - w 0 i) + s 1 * (w 3 i - w 0 i)
        + s 0 * s 1 * (w 0 i - w 1 i + w 2 i - w 3 i) := by
  simp only [isoF, quad1N, quad1Phi, sumN_succ, sumN_zero, zero_add]; ring

theorem isoF_hex (v : Nat → Nat → K) (X : Nat → K) (i : Nat) :
    isoF hex1N hex1Phi v X i
      = v 0 i * (X 0 * X 1 * X 2) + v 1 i * (X 0 * X 1 * (1 - X 2)) + v 2 i * (X 0 * (1 - X 1) * X 2)
        + v 3 i * ((1 - X 0) * X 1 * X 2) + v 4 i * (X 0 * (1 - X 1) * (1 - X 2))
        + v 5 i * ((1 - X 0) * X 1 * (1 - X 2)) + v 6 i * ((1 - X 0) * (1 - X 1) * X 2)
        + v 7 i * ((1 - X 0) * (1 - X 1) * (1 - X 2)) := by
  simp only [isoF, hex1N, hex1Phi, sumN_succ, sumN_zero]; ring

theorem isoF_lineP2 (w : Nat → Nat → K) (s : Nat → K) (i : Nat) :
    isoF lineP2N lineP2Phi w s i
      = w 0 i * (1 - 3 * s 0 + 2 * (s 0 * s 0)) + w 1 i * (-s 0 + 2 * (s 0 * s 0))
        + w 2 i * (4 * s 0 - 4 * (s 0 * s 0)) := by
  simp only [isoF, lineP2N, lineP2Phi, sumN_succ, sumN_zero, nat_eq_cast, Nat.cast_ofNat]; ring

theorem isoF_triP2 (v : Nat → Nat → K) (X : Nat → K) (i : Nat) :
    isoF triP2N triP2Phi v X i
      = v 0 i * (1 - 3 * X 0 - 3 * X 1 + 2 * (X 0 * X 0) + 4 * X 0 * X 1 + 2 * (X 1 * X 1))
        + v 1 i * (2 * (X 0 * X 0) - X 0) + v 2 i * (2 * (X 1 * X 1) - X 1)
        + v 3 i * (4 * X 0 - 4 * (X 0 * X 0) - 4 * X 0 * X 1) + v 4 i * (4 * X 0 * X 1)
        + v 5 i * (4 * X 1 - 4 * X 0 * X 1 - 4 * (X 1 * X 1)) := by
  simp only [isoF, triP2N, triP2Phi, sumN_succ, sumN_zero, nat_eq_cast, Nat.cast_ofNat]; ring

/-- relisting the vertices of the square by a symmetry `σ` is the change of parameter that takes reference
    vertex `k` to reference vertex `σ k`: the facet theorem for the square as its own facet -/
theorem quad_sym (σ : List Nat) (hσ : σ ∈ squareSyms) (w : Nat → Nat → K) (s : Nat → K) (i : Nat) :
    isoF quad1N quad1Phi (fun k => w (σ.getD k 0)) s i
      = isoF quad1N quad1Phi w
          (isoF quad1N quad1Phi (fun k => refVertex refQuadP (σ.getD k 0)) s) i := by
  simp only [squareSyms, List.mem_cons, List.not_mem_nil, or_false] at hσ
  rcases hσ with rfl | rfl | rfl | rfl | rfl | rfl | rfl | rfl <;>
    simp only [isoF_quad, refQuadP, refVertex_eq_cast, List.getD_cons_succ, List.getD_cons_zero,
      Int.cast_one, Int.cast_zero, sub_self, zero_sub, sub_zero, mul_zero, add_zero, zero_add] <;>
    ring

/-- local facet `f` with its vertices in the order of `RefHex.facets` -/
theorem hex_facet_canonical (f : Nat) (hf : f < 6) (v : Nat → Nat → K) (t : Nat → K) (i : Nat) :
    isoF quad1N quad1Phi (fun k => v ((refHexFacets.getD f []).getD k 0)) t i
      = isoF hex1N hex1Phi v
          (isoF quad1N quad1Phi (fun k => refVertex refHexP ((refHexFacets.getD f []).getD k 0)) t) i := by
  interval_cases f <;>
    simp only [isoF_hex, isoF_quad, refHexFacets, refHexP, refVertex_eq_cast, List.getD_cons_succ,
      List.getD_cons_zero, Int.cast_one, Int.cast_zero, sub_self, zero_sub, sub_zero, mul_zero, add_zero,
      zero_mul, one_mul, mul_one, zero_add] <;>
    ring

/-- differences of vertices as entries of `A`: fewer atoms for `ring` -/
theorem sub_vertex0 (v : Nat → Nat → K) (m j : Nat) : v (m + 1) j - v 0 j = affA v j m := by
  unfold affA; ring

theorem neg_vertex0 (v : Nat → Nat → K) (m j : Nat) : v 0 j - v (m + 1) j = -affA v j m := by
  unfold affA; ring

theorem sub_vertex (v : Nat → Nat → K) (m n j : Nat) :
    v (m + 1) j - v (n + 1) j = affA v j m - affA v j n := by
  unfold affA; ring

theorem surf3_perm (w u : Nat → Nat → K) (τ : List Nat) (hτ : τ ∈ perms3)
    (hu : ∀ k < 3, u k = w (τ.getD k 0)) : affSurfSq 3 (affB u) = affSurfSq 3 (affB w) := by
  have l0 := hu 0 (by omega)
  have l1 := hu 1 (by omega)
  have l2 := hu 2 (by omega)
  simp only [perms3, List.mem_cons, List.not_mem_nil, or_false] at hτ
  rcases hτ with rfl | rfl | rfl | rfl | rfl | rfl <;>
    simp only [List.getD_cons_succ, List.getD_cons_zero] at l0 l1 l2 <;>
    simp only [affSurfSq, affSurfSq3, affB, l0, l1, l2, sub_vertex0, neg_vertex0, sub_vertex] <;> ring

theorem nanson_tet_canonical (v : Nat → Nat → K) (hdet : affDet 3 (affA v) ≠ 0) (i : Nat) (hi : i < 4) :
    affSurfSq 3 (affB (fun k => v ((refTetFacets.getD i []).getD k 0)))
      = affDet 3 (affA v) * affDet 3 (affA v) * lenSq 3 (affRawNormal 3 v i) := by
  have h' : affDet3 (affA v) ≠ 0 := hdet
  -- `det A` times the raw normal is free of division; both sides are then polynomials in the entries of `A`
  rw [← lenSq_smul]
  simp only [lenSq, dot, affRawNormal, rawNormal, affNormalTransposed, affDet, affInv, affInv3, sumN_succ,
    sumN_zero, zero_add, if_true, mul_div_row3 _ _ _ _ _ _ _ h']
  interval_cases i <;>
    simp only [affNref, affNref3, tabEntry_eq_cast, List.getD_cons_succ, List.getD_cons_zero, Int.cast_one,
      Int.cast_zero, Int.cast_neg, refTetFacets, affSurfSq, affSurfSq3, affB, sub_vertex0, sub_vertex] <;>
    ring

theorem nanson_tri (v : Nat → Nat → K) (hdet : affDet 2 (affA v) ≠ 0) (i : Nat) (hi : i < 3)
    (loc : Nat → Nat)
    (hloc : [loc 0, loc 1] = refTriFacets.getD i [] ∨ [loc 1, loc 0] = refTriFacets.getD i []) :
    affSurfSq 2 (affB (fun k => v (loc k)))
      = affDet 2 (affA v) * affDet 2 (affA v) * lenSq 2 (affRawNormal 2 v i) := by
  have h' : affDet2 (affA v) ≠ 0 := hdet
  rw [← lenSq_smul]
  simp only [lenSq, dot, affRawNormal, rawNormal, affNormalTransposed, affDet, affInv, affInv2, sumN_succ,
    sumN_zero, zero_add, if_true, mul_div_row2 _ _ _ _ _ h']
  interval_cases i <;>
    simp only [refTriFacets, List.getD_cons_succ, List.getD_cons_zero, List.cons.injEq, and_true] at hloc <;>
    rcases hloc with ⟨a, b⟩ | ⟨a, b⟩ <;>
    simp only [affNref, affNref2, tabEntry_eq_cast, List.getD_cons_succ, List.getD_cons_zero, Int.cast_one,
      Int.cast_zero, Int.cast_neg, affSurfSq, affSurfSq2, affB, a, b, sub_vertex0, neg_vertex0, sub_vertex] <;>
    ring

end Field

structure RefCell where
  d : Nat
  P : List (List Int)
  F : List (List Nat)
  N : List (List Int)

/-- every reference cell of `skfem/refdom.py` -/
def refCells : List RefCell :=
  [⟨1, refLineP, refLineFacets, refLineNormals⟩, ⟨2, refTriP, refTriFacets, refTriNormals⟩,
   ⟨3, refTetP, refTetFacets, refTetNormals⟩, ⟨2, refQuadP, refQuadFacets, refQuadNormals⟩,
   ⟨3, refHexP, refHexFacets, refHexNormals⟩, ⟨3, refWedgeP, refWedgeFacets, refWedgeNormals⟩]

/-- `n̂_i · (X̂_b − X̂_a)` on the integer tables -/
def tabDot (rc : RefCell) (i a b : Nat) : Int :=
  sumN rc.d (fun j => (rc.N.getD i []).getD j 0 * ((rc.P.getD b []).getD j 0 - (rc.P.getD a []).getD j 0))

/-- the tabulated normal of local facet `i` is orthogonal to the facet and has a negative product with every
    vector from a vertex of the facet to a vertex off it -/
def refOutward (rc : RefCell) : Prop :=
  ∀ i < rc.F.length, ∀ a ∈ rc.F.getD i [],
    (∀ b ∈ rc.F.getD i [], tabDot rc i a b = 0)
    ∧ (∀ c < rc.P.length, c ∉ rc.F.getD i [] → tabDot rc i a c < 0)

instance (rc : RefCell) : Decidable (refOutward rc) := by unfold refOutward; infer_instance

theorem refCells_dim : ∀ rc ∈ refCells, rc.d = 1 ∨ rc.d = 2 ∨ rc.d = 3 := by decide

theorem dot_tab_cast {K : Type} [Field K] (rc : RefCell) (i a b : Nat) :
    dot rc.d (fun j => (tabEntry rc.N i j : K))
      (fun j => (refVertex rc.P b j : K) - refVertex rc.P a j) = ((tabDot rc i a b : Int) : K) := by
  unfold tabDot
  rw [cast_sumN]
  unfold dot
  congr 1
  funext j
  simp only [tabEntry_eq_cast, refVertex_eq_cast]
  push_cast
  ring

/-- a raw normal against the image under `J` of a difference of reference vertices is the integer table product -/
theorem iso_normal_cast {K : Type} [Field K] (rc : RefCell) (hrc : rc ∈ refCells) (J : Nat → Nat → K)
    (hdet : isoDet rc.d J ≠ 0) (i a b : Nat) :
    dot rc.d (isoRawNormal rc.d rc.N J i)
      (mulVec rc.d J (fun j => refVertex rc.P b j - refVertex rc.P a j)) = ((tabDot rc i a b : Int) : K) := by
  unfold isoRawNormal
  rw [show isoNormalTransposed = true from rfl, isoInv_eq_affInv, ← dot_tab_cast]
  exact normal_transport (fun k hk j hj =>
    affInv_mul rc.d (refCells_dim rc hrc) J (isoDet_eq_affDet rc.d J ▸ hdet) k j hk hj) _ _

theorem refCells_outward : ∀ rc ∈ refCells, refOutward rc := by decide +kernel

def triCell : RefCell := ⟨2, refTriP, refTriFacets, refTriNormals⟩
def tetCell : RefCell := ⟨3, refTetP, refTetFacets, refTetNormals⟩

theorem simplex_mem (rc : RefCell) (hrc : rc = triCell ∨ rc = tetCell) : rc ∈ refCells := by
  rcases hrc with rfl | rfl <;> simp [refCells, triCell, tetCell]

/-- read off the integer tables of the triangle and the tetrahedron: `MappingAffine.normals` uses the tabulated normals;
    they add up to zero; a facet's vertices are vertices of the cell, and `n̂_i · (X̂_a − X̂_0)` is 1 on the facet
    opposite to vertex 0 and 0 on the facets through it -/
theorem simplex_tab (rc : RefCell) (hrc : rc = triCell ∨ rc = tetCell) :
    affNref rc.d = rc.N ∧ 0 < rc.P.length
    ∧ (∀ j < rc.d, sumN rc.F.length (fun i => (rc.N.getD i []).getD j 0) = 0)
    ∧ (∀ i < rc.F.length, ∀ a ∈ rc.F.getD i [],
        a < rc.P.length ∧ tabDot rc i 0 a = if 0 ∈ rc.F.getD i [] then 0 else 1)
    ∧ sumN rc.F.length (fun i => if 0 ∈ rc.F.getD i [] then (0 : Int) else 1) = 1 := by
  rcases hrc with rfl | rfl <;> decide +kernel

/-- the same for an affine simplex: `F` maps the tabulated reference vertices to the cell's -/
theorem simplex_normal_cast {K : Type} [Field K] (rc : RefCell) (hrc : rc = triCell ∨ rc = tetCell)
    (v : Nat → Nat → K) (hdet : affDet rc.d (affA v) ≠ 0) (i a c : Nat) (ha : a < rc.P.length)
    (hc : c < rc.P.length) :
    dot rc.d (affRawNormal rc.d v i) (fun j => v c j - v a j) = ((tabDot rc i a c : Int) : K) := by
  have hvert : ∀ k < rc.P.length, ∀ j < rc.d, cellF rc.d v (refVertex rc.P k) j = v k j := by
    rcases hrc with rfl | rfl
    · exact fun k hk => (cellF_vertices v).2.1 k (Nat.le_of_lt_succ hk)
    · exact fun k hk => (cellF_vertices v).2.2 k (Nat.le_of_lt_succ hk)
  rw [← iso_normal_cast rc (simplex_mem rc hrc) (affA v) (isoDet_eq_affDet rc.d (affA v) ▸ hdet)]
  unfold affRawNormal isoRawNormal
  rw [(simplex_tab rc hrc).1, isoInv_eq_affInv]
  refine dot_congr (K := K) _ fun j hj => ?_
  rw [mulVec_sub, ← hvert c hc j hj, ← hvert a ha j hj]
  exact add_sub_add_right_eq_sub _ _ _

theorem sum_affRawNormal_dot {K : Type} [Field K] (rc : RefCell) (hrc : rc = triCell ∨ rc = tetCell)
    (v : Nat → Nat → K) (x : Nat → K) :
    sumN rc.F.length (fun i => dot rc.d (affRawNormal rc.d v i) x) = 0 := by
  unfold affRawNormal
  simp only [(simplex_tab rc hrc).1, show affNormalTransposed = true from rfl, dot_rawNormal]
  simp only [dot, sumN_eq_sum, tabEntry_eq_cast]
  rw [Finset.sum_comm]
  refine Finset.sum_eq_zero fun j hj => ?_
  rw [← Finset.sum_mul, ← Int.cast_sum, ← sumN_eq_sum,
    (simplex_tab rc hrc).2.2.1 j (Finset.mem_range.1 hj), Int.cast_zero, zero_mul]

/-- `Σ_i n_i · x_i = 1` for any vertex `x_i` of facet `i`: take the differences to vertex 0 -/
theorem simplex_divergence {K : Type} [Field K] (rc : RefCell) (hrc : rc = triCell ∨ rc = tetCell)
    (v : Nat → Nat → K) (hdet : affDet rc.d (affA v) ≠ 0) (a : Nat → Nat)
    (ha : ∀ i < rc.F.length, a i ∈ rc.F.getD i []) :
    sumN rc.F.length (fun i => dot rc.d (affRawNormal rc.d v i) (v (a i))) = 1 := by
  obtain ⟨_, hP, _, htab, hsum⟩ := simplex_tab rc hrc
  rw [sumN_congr fun i hi => (dot_sub rc.d _ (v (a i)) (v 0)).trans (congrArg _
    ((simplex_normal_cast rc hrc v hdet i 0 (a i) hP (htab i hi _ (ha i hi)).1).trans
      (congrArg Int.cast (htab i hi _ (ha i hi)).2))),
    sumN_eq_sum, Finset.sum_add_distrib, ← sumN_eq_sum, sum_affRawNormal_dot rc hrc, zero_add,
    ← sumN_eq_sum, ← cast_sumN, hsum, Int.cast_one]

/-- (surface factor) × (unit normal · x) = |det| × (raw normal · x) on every facet, the square roots `σ` of the
    radicand `S` and `ℓ` of the squared length of the raw normal `n` being given -/
theorem sum_facet_terms {K : Type} [Field K] [LinearOrder K] [IsStrictOrderedRing K] (m d : Nat)
    (n x : Nat → Nat → K) (σ ℓ S : Nat → K) (c D : K) (hS : ∀ i < m, S i = D * D * lenSq d (n i))
    (h : ∀ i < m, 0 ≤ σ i ∧ σ i * σ i = S i ∧ 0 < ℓ i ∧ ℓ i * ℓ i = lenSq d (n i)) :
    sumN m (fun i => c * σ i * dot d (delivered (n i) (ℓ i)) (x i))
      = c * |D| * sumN m (fun i => dot d (n i) (x i)) := by
  rw [sumN_eq_sum, sumN_eq_sum, Finset.mul_sum]
  refine Finset.sum_congr rfl fun i hi => ?_
  obtain ⟨hσ0, hσ, hℓ0, hℓ⟩ := h i (Finset.mem_range.mp hi)
  have e : σ i = |D| * ℓ i := by
    apply (mul_self_inj hσ0 (mul_nonneg (abs_nonneg D) hℓ0.le)).mp
    rw [hσ, hS i (Finset.mem_range.mp hi), ← hℓ, ← abs_mul_abs_self D, mul_mul_mul_comm]
  rw [dot_delivered, e, mul_assoc, mul_assoc, mul_div_cancel₀ _ hℓ0.ne', mul_assoc]

end Skv.Map
