import SkfemVerif.Lemmas.RefineUniform
/-
Propagation of named boundaries through `MeshTri1._uniform` / `MeshQuad1._uniform`: the table `new_facets` names,
for every old facet, its two halves in the refined mesh.  Both rows of `new_facets` are scatters with the same
sequence of positions, so their final values at a facet come from the same assignment and the same cell
(`scatter_pair`); which child facets an assignment reads is a finite table (`asgOk`).
-/
namespace Skv.Refine

theorem length_scatter (init : List Nat) (W : List (Nat × Nat)) : (scatter init W).length = init.length := by
  induction W generalizing init with
  | nil => rfl
  | cons w W ih => simp only [scatter, List.foldl_cons] at ih ⊢; rw [ih]; simp

theorem scatter_getD (init : List Nat) (W : List (Nat × Nat)) (f : Nat) (hf : f < init.length) :
    (scatter init W).getD f 0 =
      match W.reverse.find? (fun w => w.1 == f) with
      | some w => w.2
      | none => init.getD f 0 := by
  induction W generalizing init with
  | nil => simp [scatter]
  | cons w W ih =>
    have hstep : scatter init (w :: W) = scatter (init.set w.1 w.2) W := rfl
    rw [hstep, ih _ (by simpa using hf), List.reverse_cons, List.find?_append]
    cases h : W.reverse.find? (fun w => w.1 == f) with
    | some x => simp
    | none =>
      simp only [Option.none_or, List.find?_cons, List.find?_nil]
      by_cases hw : w.1 = f
      · simp [hw, List.getD_eq_getElem?_getD, hf]
      · have : (w.1 == f) = false := by simpa using hw
        simp [this, List.getD_eq_getElem?_getD, hw]

theorem scatter_pair {α : Type} (X : List α) (pos va vb : α → Nat) (n f : Nat) (hf : f < n)
    (hex : ∃ x ∈ X, pos x = f) :
    ∃ x ∈ X, pos x = f ∧
      (scatter (List.replicate n 0) (X.map (fun x => (pos x, va x)))).getD f 0 = va x ∧
      (scatter (List.replicate n 0) (X.map (fun x => (pos x, vb x)))).getD f 0 = vb x := by
  obtain ⟨x, hx⟩ : ∃ x, X.reverse.find? (fun x => pos x == f) = some x := by
    rw [← Option.isSome_iff_exists, List.find?_isSome]
    obtain ⟨x, hx, hp⟩ := hex
    exact ⟨x, List.mem_reverse.mpr hx, beq_iff_eq.mpr hp⟩
  refine ⟨x, List.mem_reverse.mp (List.mem_of_find?_eq_some hx), by simpa using List.find?_some hx, ?_, ?_⟩ <;>
  · rw [scatter_getD _ _ f (by simpa using hf), ← List.map_reverse, List.find?_map]
    simp only [Function.comp_def, hx, Option.map_some]
/-- one group of assignments `new_facets[0, t2f[s]] = t2f'[s₀, blk₀]`, `new_facets[1, t2f[s]] = t2f'[s₁, blk₁]`:
    the slot `s` written, the two local vertices of facet `s` in the order in which the rows read their halves,
    and for either row the (slot, child block) read -/
structure Asg where
  slot : Nat
  ends : Nat × Nat
  rd0 : Nat × Nat
  rd1 : Nat × Nat

def newFacetsBy (nt nf : Nat) (t2f t2f' : List (List Nat)) (A : List Asg) : List Nat × List Nat :=
  (scatter (List.replicate nf 0) (A.flatMap fun r => stmt nt t2f t2f' r.slot r.rd0.1 r.rd0.2),
   scatter (List.replicate nf 0) (A.flatMap fun r => stmt nt t2f t2f' r.slot r.rd1.1 r.rd1.2))

def triAsg : List Asg := [⟨2, (0, 2), (2, 0), (0, 2)⟩, ⟨1, (1, 2), (2, 1), (2, 2)⟩, ⟨0, (0, 1), (0, 0), (0, 1)⟩]
def quadAsg : List Asg :=
  [⟨0, (0, 1), (0, 0), (0, 1)⟩, ⟨1, (1, 2), (1, 1), (1, 2)⟩, ⟨2, (2, 3), (2, 2), (2, 3)⟩, ⟨3, (3, 0), (3, 3), (3, 0)⟩]

theorem triNewFacets_eq (nt nf : Nat) (t2f t2f' : List (List Nat)) :
    triNewFacets nt nf t2f t2f' = newFacetsBy nt nf t2f t2f' triAsg := by
  simp [triNewFacets, newFacetsBy, triAsg]

theorem quadNewFacets_eq (nt nf : Nat) (t2f t2f' : List (List Nat)) :
    quadNewFacets nt nf t2f t2f' = newFacetsBy nt nf t2f t2f' quadAsg := by
  simp [quadNewFacets, newFacetsBy, quadAsg]

def slotWords (w : List Src) (slot : List Nat) : List Src := slot.map (fun i => w.getD i default)

/-- the child facet read belongs to one of the first `n` children and consists of vertex `i` of the parent and the
    midpoint of the parent's facet `s` -/
def readsHalf (kd : Kind) (T : Template) (n s i : Nat) (rd : Nat × Nat) : Bool :=
  decide (rd.1 < kd.facets.length) && decide (rd.2 < n) &&
  (kd.facets.getD rd.1 []).all (fun a => a < (T.getD rd.2 []).length) &&
  decide ((slotWords (T.getD rd.2 []) (kd.facets.getD rd.1 [])).Perm [Src.v i, Src.f s])

/-- every slot is written, and what is read for the two rows are the two halves of the facet -/
def asgOk (kd : Kind) (T : Template) (n : Nat) (A : List Asg) : Bool :=
  (List.range kd.facets.length).all (fun s => A.any (fun r => r.slot == s)) &&
  A.all (fun r => decide (r.slot < kd.facets.length) &&
    decide ([r.ends.1, r.ends.2].Perm (kd.facets.getD r.slot [])) &&
    readsHalf kd T n r.slot r.ends.1 r.rd0 && readsHalf kd T n r.slot r.ends.2 r.rd1)

theorem asgOk_tri : asgOk .tri triT 3 triAsg = true := by decide
theorem asgOk_quad : asgOk .quad quadT 4 quadAsg = true := by decide

theorem flatMap_stmt (nt : Nat) (t2f t2f' : List (List Nat)) (A : List Asg) (sel : Asg → Nat × Nat) :
    A.flatMap (fun r => stmt nt t2f t2f' r.slot (sel r).1 (sel r).2)
      = (A.flatMap fun r => (List.range nt).map fun k => (r, k)).map (fun x : Asg × Nat =>
          ((t2f.getD x.1.slot []).getD x.2 0, (t2f'.getD (sel x.1).1 []).getD ((sel x.1).2 * nt + x.2) 0)) := by
  simp only [stmt, List.map_flatMap, List.map_map, Function.comp_def]

theorem readsHalf_spec {kd : Kind} {T : Template} {n s i : Nat} {rd : Nat × Nat}
    (h : readsHalf kd T n s i rd = true) (g : Src → Nat) :
    rd.1 < kd.facets.length ∧ rd.2 < n ∧
    sortCol (slotCol ((T.getD rd.2 []).map g) (kd.facets.getD rd.1 [])) = sortCol [g (.v i), g (.f s)] := by
  simp only [readsHalf, Bool.and_eq_true, decide_eq_true_eq, List.all_eq_true] at h
  obtain ⟨⟨⟨h1, h2⟩, h3⟩, h4⟩ := h
  refine ⟨h1, h2, ?_⟩
  rw [show slotCol ((T.getD rd.2 []).map g) (kd.facets.getD rd.1 [])
      = (slotWords (T.getD rd.2 []) (kd.facets.getD rd.1 [])).map g from
    map_getD_map g _ default 0 h3]
  exact sortCol_congr (h4.map g)

/-- the two rows of `new_facets` name the two halves of every facet.  `hf`: the facet midpoints are numbered
    `sz + t2f`; `hraw`: the first `n` children, among which are those that are read, are stored as the template says -/
theorem new_facets_halves (kd : Kind) (T : Template) (A : List Asg) (m : MeshData) {n : Nat}
    (hn : n ≤ kd.nchild) (hsorted : (kd != .hex) = true)
    (hf : ∀ k s, (envOf kd m).num k (.f s) = m.p.length + ((facetTable kd m).2.getD s []).getD k 0)
    (hA : asgOk kd T n A = true)
    (hraw : ∀ blk, blk < n → ∀ k, k < m.cells.length →
      (newCells kd m).getD (blk * m.cells.length + k) [] = (T.getD blk []).map ((envOf kd m).num k))
    {s k f : Nat} (hs : s < kd.facets.length) (hk : k < m.cells.length)
    (hfk : ((facetTable kd m).2.getD s []).getD k 0 = f) {new : List (List Nat) × List (List Nat)}
    (hnew : new = buildEntities (newCells kd m) kd.facets true) :
    ∃ a b,
      (facetTable kd m).1.getD f [] = sortCol [a, b] ∧
      new.1.getD ((newFacetsBy m.cells.length (facetTable kd m).1.length (facetTable kd m).2 new.2 A).1.getD f 0) []
        = sortCol [a, m.p.length + f] ∧
      new.1.getD ((newFacetsBy m.cells.length (facetTable kd m).1.length (facetTable kd m).2 new.2 A).2.getD f 0) []
        = sortCol [b, m.p.length + f] := by
  have hft : facetTable kd m = buildEntities m.cells kd.facets true := by rw [facetTable, hsorted]
  simp only [asgOk, Bool.and_eq_true, List.all_eq_true, List.any_eq_true, List.mem_range, beq_iff_eq,
    decide_eq_true_eq] at hA
  obtain ⟨hall, hrows⟩ := hA
  have hflt : f < (facetTable kd m).1.length := by
    rw [← hfk, hft]; exact (buildEntities_slot_sorted m.cells kd.facets s k hs hk).1
  obtain ⟨r0, hr0, hr0s⟩ := hall s hs
  obtain ⟨⟨r, q⟩, hmem, hpos, h0, h1⟩ := scatter_pair
    (A.flatMap fun r => (List.range m.cells.length).map fun k => (r, k))
    (fun x => ((facetTable kd m).2.getD x.1.slot []).getD x.2 0) _ _ _ f hflt
    ⟨(r0, k), by simp only [List.mem_flatMap, List.mem_map, List.mem_range]; exact ⟨r0, hr0, k, hk, rfl⟩,
      by simp only [hr0s]; exact hfk⟩
  simp only [newFacetsBy, flatMap_stmt _ _ _ _ Asg.rd0, flatMap_stmt _ _ _ _ Asg.rd1]
  rw [h0, h1]
  simp only [List.mem_flatMap, List.mem_map, List.mem_range, Prod.mk.injEq] at hmem
  obtain ⟨r', hr, q', hq, rfl, rfl⟩ := hmem
  simp only at hpos
  -- the facet named by slot `rd.1` of child `rd.2` of cell `q'`: a vertex and the midpoint `sz + f`
  have half : ∀ i rd, readsHalf kd T n r'.slot i rd = true →
      new.1.getD ((new.2.getD rd.1 []).getD (rd.2 * m.cells.length + q') 0) []
        = sortCol [(m.cells.getD q' []).getD i 0, m.p.length + f] := by
    intro i rd h
    obtain ⟨g1, g2, g3⟩ := readsHalf_spec h ((envOf kd m).num q')
    rw [hnew, (buildEntities_slot_sorted (newCells kd m) kd.facets rd.1 _ g1
      (by rw [length_newCells]; exact mul_add_lt_mul hq (Nat.lt_of_lt_of_le g2 hn))).2, hraw _ g2 q' hq, g3, hf, hpos]
    simp only [Env.num, envOf_cells]
  obtain ⟨⟨⟨hs1, hends⟩, ha⟩, hb⟩ := hrows _ hr
  have hent := (buildEntities_slot_sorted m.cells kd.facets r'.slot q' hs1 hq).2
  rw [← hft, hpos, slotCol, ← sortCol_congr (hends.map _)] at hent
  exact ⟨_, _, hent, half _ _ ha, half _ _ hb⟩

/-! vocabulary of the statements about triangles in `Props/C12.lean` -/

/-- the children 0, 1, 2 of every cell are stored as the template says (with `sort_t=True` because they are
    ascending already) -/
def TriRaw (m : MeshData) : Prop :=
  ∀ blk, blk < 3 → ∀ k, k < m.cells.length →
    (newCells .tri m).getD (blk * m.cells.length + k) [] = (triT.getD blk []).map ((envOf .tri m).num k)

/-- `sort_t=True`: every cell is ascending and names existing vertices -/
def TriAscending (m : MeshData) : Prop :=
  ∀ k, k < m.cells.length → ∃ a b c, m.cells.getD k [] = [a, b, c] ∧ a < b ∧ b < c ∧ c < m.p.length

theorem pair_lt_pair {a b c d : Nat} (h : a < c ∨ (a = c ∧ b < d)) : ([a, b] : List Nat) < [c, d] := by
  rw [List.cons_lt_cons_iff]
  rcases h with h | ⟨rfl, h⟩
  · exact Or.inl h
  · exact Or.inr ⟨rfl, by rw [List.cons_lt_cons_iff]; exact Or.inl h⟩

end Skv.Refine
