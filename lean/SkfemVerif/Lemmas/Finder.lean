import SkfemVerif.Model.Finder
import SkfemVerif.Lemmas.List
import Mathlib.Tactic.Ring
/-
Lemmas for C14 (element finder, probes).  A stage of the finder answers, point by point, with the first candidate
whose inside test passes (`firstInside`); the two-stage finder is `Option.or` of two stages.  The inside tests are
Cramer's rule on variables: `invF#` returns barycentric coordinates, which decide membership in the hull.  `orient`
is the affine function behind the half-plane description of a triangle: it commutes with barycentric combinations
(its ratios are the barycentric coordinates: `hull_of_halfplanes` in `Props/C14.lean`).  In 1-D a pass counts the
vertices that a monotone test accepts along the sorted vertex list; such a test switches once, so the pass reads
off the first vertex without it.
-/
namespace Skv.Find

theorem argmaxBool_spec (l : List Bool) (h : true ∈ l) :
    ∃ hlt : argmaxBool l < l.length, l[argmaxBool l] = true := by
  have hany : l.any id = true := by
    simp only [List.any_eq_true]
    exact ⟨true, h, rfl⟩
  unfold argmaxBool
  simp only [hany, if_true]
  exact ⟨List.idxOf_lt_length_of_mem h, List.getElem_idxOf _⟩

section Decision
variable {P : Type}

/-- the cell the stage returns for one point -/
def firstInside (inside : Nat → P → Bool) (ix : List Nat) (x : P) : Nat :=
  ix.getD (argmaxBool (ix.map (fun k => inside k x))) 0

theorem firstInside_spec (inside : Nat → P → Bool) (ix : List Nat) (x : P)
    (h : ∃ k ∈ ix, inside k x = true) :
    firstInside inside ix x ∈ ix ∧ inside (firstInside inside ix x) x = true := by
  obtain ⟨k, hk, hin⟩ := h
  obtain ⟨hlt, hget⟩ :=
    argmaxBool_spec _ ((List.mem_map (f := fun k => inside k x)).2 ⟨k, hk, hin⟩)
  rw [List.length_map] at hlt
  rw [List.getElem_map] at hget
  unfold firstInside
  rw [getD_eq_getElem _ _ hlt]
  exact ⟨List.getElem_mem _, hget⟩

theorem finderStage_eq_some (inside : Nat → P → Bool) (ix : List Nat) (pts : List P)
    (r : List Nat) :
    finderStage inside ix pts = some r ↔
      (∀ x ∈ pts, ∃ k ∈ ix, inside k x = true) ∧ r = pts.map (firstInside inside ix) := by
  unfold finderStage
  simp only [List.all_eq_true, List.any_eq_true]
  split
  · rename_i h
    exact ⟨fun e => ⟨h, (Option.some.inj e).symm⟩, fun e => e.2 ▸ rfl⟩
  · rename_i h
    exact ⟨nofun, fun e => absurd e.1 h⟩

theorem finderStage_eq_none (inside : Nat → P → Bool) (ix : List Nat) (pts : List P) :
    finderStage inside ix pts = none ↔ ∃ x ∈ pts, ∀ k ∈ ix, inside k x = false := by
  unfold finderStage
  simp only [List.all_eq_true, List.any_eq_true, ite_eq_right_iff, reduceCtorEq, imp_false,
    not_forall, not_exists, not_and, Bool.not_eq_true, exists_prop]

theorem finderStage_getElem {inside : Nat → P → Bool} {ix : List Nat} {pts : List P} {r : List Nat}
    (h : finderStage inside ix pts = some r) :
    r.length = pts.length ∧ ∀ i (hi : i < pts.length) (hr : i < r.length),
      r[i] ∈ ix ∧ inside r[i] pts[i] = true := by
  obtain ⟨hall, rfl⟩ := (finderStage_eq_some _ _ _ _).1 h
  refine ⟨List.length_map _, fun i hi _ => ?_⟩
  rw [List.getElem_map]
  exact firstInside_spec inside ix _ (hall _ (List.getElem_mem hi))

theorem finder2_eq_or (inside1 inside2 : Nat → P → Bool) (nt : Nat) (cand : List Nat)
    (pts : List P) :
    finder2 inside1 inside2 nt cand pts
      = (finderStage inside1 cand pts).or (finderStage inside2 (List.range nt) pts) := by
  unfold finder2
  cases finderStage inside1 cand pts <;> rfl

/-- `finder` is `finder2` with `inside1 = inside2` by definition -/
theorem finder2_getElem {inside1 inside2 : Nat → P → Bool} {nt : Nat} {cand : List Nat}
    {pts : List P} {r : List Nat} (h : finder2 inside1 inside2 nt cand pts = some r) :
    r.length = pts.length ∧ ∀ i (hi : i < pts.length) (hr : i < r.length),
      (r[i] ∈ cand ∧ inside1 r[i] pts[i] = true) ∨ (r[i] < nt ∧ inside2 r[i] pts[i] = true) := by
  rw [finder2_eq_or, Option.or_eq_some_iff] at h
  rcases h with h | ⟨_, h⟩
  · exact (finderStage_getElem h).imp_right fun H i hi hr => Or.inl (H i hi hr)
  · exact (finderStage_getElem h).imp_right fun H i hi hr =>
      Or.inr ((H i hi hr).imp_left List.mem_range.1)

theorem finder2_eq_none (inside1 inside2 : Nat → P → Bool) (nt : Nat) (cand : List Nat)
    (pts : List P) :
    finder2 inside1 inside2 nt cand pts = none ↔
      (∃ x ∈ pts, ∀ k ∈ cand, inside1 k x = false) ∧
        ∃ x ∈ pts, ∀ k, k < nt → inside2 k x = false := by
  rw [finder2_eq_or, Option.or_eq_none_iff, finderStage_eq_none, finderStage_eq_none]
  simp only [List.mem_range]

end Decision

/-- what `probes` hands to `coo_matrix`: one triplet per local basis function `k`, tensor component `c` and query
    point `p` -/
theorem probeTriplets_structured {K : Type} (Nbfun comp : Nat) (cells : List Nat) (dofs : Nat → Nat → Nat)
    (phi : Nat → Nat → Nat → K) :
    probeTriplets Nbfun comp cells dofs phi
      = (List.range Nbfun).flatMap (fun k => (List.range comp).flatMap (fun c =>
          (List.range cells.length).map (fun p =>
            (c * cells.length + p, dofs k (cells.getD p 0), phi k c p)))) := by
  unfold probeTriplets probeRows probeCols probePhis tile
  have hcols : ∀ k, ((List.range comp).flatMap fun _ => cells).map (fun cell => dofs k cell)
      = (List.range comp).flatMap (fun _ => (List.range cells.length).map
          (fun p => dofs k (cells.getD p 0))) := fun k => by
    rw [List.map_flatMap, map_getD_range cells 0 (dofs k)]
  simp only [hcols, range_mul_eq_flatMap]
  -- rows, columns and values are now three nested ranges each: zip them level by level
  rw [zip_flatMap _ _ _ (fun k _ => by simp), zip_flatMap _ _ _ (fun k _ => by simp)]
  congr 1
  funext k
  rw [zip_flatMap _ _ _ (fun c _ => by simp), zip_flatMap _ _ _ (fun c _ => by simp)]
  congr 1
  funext c
  rw [List.zip_map', List.zip_map']

/-! `invF#` unfolds to `(C / d) · (x - v0)` with `C` the cofactors and `d` the determinant of the matrix `A` of the
differences `vi - v0`.  `cramer_row#` / `cramer_col#` divide one row of Cramer's rule `A · C = d · 1` /
`C · A = d · 1` by `d`; their implicit arguments are read off the unfolded model by unification, and the row of
Cramer's rule itself is a polynomial identity (`ring`).  `invF#_eq_iff`: what `invF#` returns are the barycentric
coordinates of `x` with respect to `v1, …`; `l0` is the one of `v0`. -/

theorem invF1_eq_iff {v0 v1 x l0 l1 : Rat} (h : v0 ≠ v1) (hs : l0 + l1 = 1) :
    invF1 v0 v1 x = l1 ↔ x = l0 * v0 + l1 * v1 := by
  unfold invF1
  rw [one_div_mul_eq_div, div_eq_iff (sub_ne_zero.2 h.symm), sub_eq_iff_eq_add,
    eq_sub_of_add_eq' hs]
  exact Eq.congr_right (by ring)

theorem cramer_row2 {d a b c00 c01 c10 c11 y0 y1 y : ℚ} (hd : d ≠ 0)
    (h : (c00 * y0 + c01 * y1) * a + (c10 * y0 + c11 * y1) * b = d * y) :
    y = (c00 / d * y0 + c01 / d * y1) * a + (c10 / d * y0 + c11 / d * y1) * b := by
  rw [← mul_div_cancel_left₀ y hd, ← h]
  ring

theorem cramer_col2 {d c0 c1 z0 z1 l : ℚ} (hd : d ≠ 0) (h : c0 * z0 + c1 * z1 = d * l) :
    c0 / d * z0 + c1 / d * z1 = l := by
  rw [← mul_div_cancel_left₀ l hd, ← h]
  ring

theorem bary_iff_affine2 {x v0 v1 v2 l0 l1 l2 : ℚ} (hs : l0 + l1 + l2 = 1) :
    x = l0 * v0 + l1 * v1 + l2 * v2 ↔ x - v0 = l1 * (v1 - v0) + l2 * (v2 - v0) := by
  rw [sub_eq_iff_eq_add, eq_sub_of_add_eq' hs]
  exact Eq.congr_right (by ring)

theorem invF2_eq_iff {v0 v1 v2 x : P2} {l0 : ℚ} {X : ℚ × ℚ} (h : det2 v0 v1 v2 ≠ 0)
    (hs : l0 + X.1 + X.2 = 1) :
    invF2 v0 v1 v2 x = X ↔
      x.1 = l0 * v0.1 + X.1 * v1.1 + X.2 * v2.1 ∧ x.2 = l0 * v0.2 + X.1 * v1.2 + X.2 * v2.2 := by
  simp only [bary_iff_affine2 hs]
  constructor
  · rintro rfl
    exact ⟨cramer_row2 h (by ring), cramer_row2 h (by ring)⟩
  · rintro ⟨e1, e2⟩
    unfold invF2
    rw [e1, e2]
    exact Prod.ext (cramer_col2 h (by ring)) (cramer_col2 h (by ring))

theorem cramer_row3 {d a b c c00 c01 c02 c10 c11 c12 c20 c21 c22 y0 y1 y2 y : ℚ} (hd : d ≠ 0)
    (h : (c00 * y0 + c01 * y1 + c02 * y2) * a + (c10 * y0 + c11 * y1 + c12 * y2) * b
      + (c20 * y0 + c21 * y1 + c22 * y2) * c = d * y) :
    y = (c00 / d * y0 + c01 / d * y1 + c02 / d * y2) * a
      + (c10 / d * y0 + c11 / d * y1 + c12 / d * y2) * b
      + (c20 / d * y0 + c21 / d * y1 + c22 / d * y2) * c := by
  rw [← mul_div_cancel_left₀ y hd, ← h]
  ring

theorem cramer_col3 {d c0 c1 c2 z0 z1 z2 l : ℚ} (hd : d ≠ 0)
    (h : c0 * z0 + c1 * z1 + c2 * z2 = d * l) : c0 / d * z0 + c1 / d * z1 + c2 / d * z2 = l := by
  rw [← mul_div_cancel_left₀ l hd, ← h]
  ring

theorem bary_iff_affine3 {x v0 v1 v2 v3 l0 l1 l2 l3 : ℚ} (hs : l0 + l1 + l2 + l3 = 1) :
    x = l0 * v0 + l1 * v1 + l2 * v2 + l3 * v3 ↔
      x - v0 = l1 * (v1 - v0) + l2 * (v2 - v0) + l3 * (v3 - v0) := by
  rw [sub_eq_iff_eq_add, eq_sub_of_add_eq' hs]
  exact Eq.congr_right (by ring)

theorem invF3_eq_iff {v0 v1 v2 v3 x : P3} {l0 : ℚ} {X : ℚ × ℚ × ℚ} (h : det3 v0 v1 v2 v3 ≠ 0)
    (hs : l0 + X.1 + X.2.1 + X.2.2 = 1) :
    invF3 v0 v1 v2 v3 x = X ↔
      x.x = l0 * v0.x + X.1 * v1.x + X.2.1 * v2.x + X.2.2 * v3.x ∧
      x.y = l0 * v0.y + X.1 * v1.y + X.2.1 * v2.y + X.2.2 * v3.y ∧
      x.z = l0 * v0.z + X.1 * v1.z + X.2.1 * v2.z + X.2.2 * v3.z := by
  simp only [bary_iff_affine3 hs]
  constructor
  · rintro rfl
    exact ⟨cramer_row3 h (by ring), cramer_row3 h (by ring), cramer_row3 h (by ring)⟩
  · rintro ⟨ex, ey, ez⟩
    unfold invF3
    rw [ex, ey, ez]
    exact Prod.ext (cramer_col3 h (by ring)) (Prod.ext (cramer_col3 h (by ring))
      (cramer_col3 h (by ring)))

/-- twice the signed area of `(a, b, x)`: positive iff `x` is to the left of `a → b` -/
def orient (a b x : P2) : Rat := (b.1 - a.1) * (x.2 - a.2) - (b.2 - a.2) * (x.1 - a.1)

theorem orient_bary {p q a b c x : P2} {l0 l1 l2 : Rat} (hs : l0 + l1 + l2 = 1)
    (e1 : x.1 = l0 * a.1 + l1 * b.1 + l2 * c.1) (e2 : x.2 = l0 * a.2 + l1 * b.2 + l2 * c.2) :
    orient p q x = l0 * orient p q a + l1 * orient p q b + l2 * orient p q c := by
  obtain rfl : l0 = 1 - l2 - l1 := eq_sub_of_add_eq (eq_sub_of_add_eq hs)
  unfold orient
  rw [e1, e2]
  ring

theorem orient_cyc (a b c : P2) : orient b c a = orient a b c := by unfold orient; ring

theorem orient_swap (a b c : P2) : orient a c b = -orient a b c := by unfold orient; ring

theorem orient_self_left (a b : P2) : orient a b a = 0 := by unfold orient; ring

theorem orient_self_right (a b : P2) : orient a b b = 0 := by unfold orient; ring

theorem det2_eq_orient (a b c : P2) : det2 a b c = orient a b c := by unfold det2 orient; ring

theorem mem_insertByKey (p : Nat → Rat) (v u : Nat) (l : List Nat) :
    u ∈ insertByKey p v l ↔ u = v ∨ u ∈ l := by
  induction l with
  | nil => simp [insertByKey]
  | cons w ws ih =>
    unfold insertByKey
    split
    · rw [List.mem_cons]
    · rw [List.mem_cons, ih, List.mem_cons, or_left_comm]

theorem sorted_insertByKey (p : Nat → Rat) (v : Nat) (l : List Nat)
    (h : l.Pairwise (fun a b => p a ≤ p b)) :
    (insertByKey p v l).Pairwise (fun a b => p a ≤ p b) := by
  induction l with
  | nil => simp [insertByKey]
  | cons w ws ih =>
    obtain ⟨hw, hws⟩ := List.pairwise_cons.1 h
    unfold insertByKey
    split
    · rename_i hlt
      exact List.pairwise_cons.2
        ⟨List.forall_mem_cons.2 ⟨hlt.le, fun b hb => hlt.le.trans (hw b hb)⟩, h⟩
    · rename_i hnlt
      refine List.pairwise_cons.2 ⟨fun b hb => ?_, ih hws⟩
      rcases (mem_insertByKey p v b ws).1 hb with rfl | hb'
      · exact not_lt.1 hnlt
      · exact hw b hb'

theorem mem_argsortKey (p : Nat → Rat) (nv u : Nat) : u ∈ argsortKey p nv ↔ u < nv := by
  have (l : List Nat) : u ∈ l.foldr (insertByKey p) [] ↔ u ∈ l := by
    induction l with
    | nil => rfl
    | cons a as ih => rw [List.foldr_cons, mem_insertByKey, ih, List.mem_cons]
  exact (this _).trans List.mem_range

theorem sorted_argsortKey (p : Nat → Rat) (nv : Nat) :
    (argsortKey p nv).Pairwise (fun a b => p a ≤ p b) :=
  List.foldrRecOn _ _ List.Pairwise.nil fun acc h v _ => sorted_insertByKey p v acc h

/-- along a list on which `q` only switches off, the entry at position `countP q` is the first one without `q` -/
theorem getElem?_countP {α : Type} (q : α → Bool) (l : List α)
    (h : l.Pairwise (fun a b => q b = true → q a = true)) :
    l[l.countP q]? = l.find? (fun a => !q a) := by
  induction l with
  | nil => rfl
  | cons b bs ih =>
    obtain ⟨hb, hbs⟩ := List.pairwise_cons.1 h
    by_cases hqb : q b = true
    · rw [List.countP_cons_of_pos hqb, List.getElem?_cons_succ, ih hbs,
        List.find?_cons_of_neg (by simp [hqb])]
    · rw [List.countP_eq_zero.2, List.find?_cons_of_pos (by simp [hqb])]
      · rfl
      · intro c hc
        rcases List.mem_cons.1 hc with rfl | hc
        · exact hqb
        · exact fun hqc => hqb (hb c hc hqc)

/-- `ix[countP q (p[ix])]` for a `q` that switches off along increasing coordinates is the vertex with the smallest
    coordinate without `q`, if any (`np.digitize`: `q = (· ≤ x)`, with `right=True`: `q = (· < x)`) -/
theorem countP_vertex (p : Nat → Rat) (nv : Nat) (q : Rat → Bool)
    (hq : ∀ a b, a ≤ b → q b = true → q a = true) :
    match (argsortKey p nv)[((argsortKey p nv).map p).countP q]? with
    | some v => v < nv ∧ q (p v) = false ∧ ∀ u, u < nv → q (p u) = false → p v ≤ p u
    | none => ∀ u, u < nv → q (p u) = true := by
  have hs := sorted_argsortKey p nv
  rw [List.countP_map, getElem?_countP (q ∘ p) _ (hs.imp fun hab => hq _ _ hab)]
  simp only [← mem_argsortKey p nv]
  split
  · rename_i v hv
    -- the sorted list is `as ++ v :: bs` with `q` on all of `as`
    obtain ⟨hqv, as, bs, e, has⟩ := List.find?_eq_some_iff_append.1 hv
    rw [e] at hs ⊢
    refine ⟨by simp, by simpa using hqv, fun u hu hqu => ?_⟩
    rcases List.mem_append.1 hu with h | h
    · simpa [hqu] using has u h
    · rcases List.mem_cons.1 h with rfl | h
      · exact le_refl _
      · exact List.rel_of_pairwise_cons (List.pairwise_append.1 hs).2.1 h
  · rename_i hnone
    exact fun u hu => by simpa using List.find?_eq_none.1 hnone u hu

theorem lineFinder_eq_none (p : Nat → Rat) (nv : Nat) (t : List (Nat × Nat)) (xs : List Rat) :
    lineFinder p nv t xs = none ↔ ∃ x ∈ xs, lineLocate p nv t x = none := by
  unfold lineFinder
  simp only [List.all_map, List.all_eq_true, Function.comp_apply, ite_eq_right_iff, reduceCtorEq,
    imp_false, not_forall, Bool.not_eq_true, Option.isSome_eq_false_iff,
    Option.isNone_iff_eq_none, exists_prop]

end Skv.Find
