import SkfemVerif.Lemmas.Poly
import SkfemVerif.Lemmas.List
import Mathlib.Data.List.GetD
/-
What `Poly.substAffine` computes and what a passed `checkTraceTable` says (for `Props/C03b.lean`; the
namespace is that of its statements, whose vocabulary `facetPoint`, `traceAt`, `WFElem` is defined here).
The operations under `substAffine` (`mul`, `norm`, `pow`, `affineFn`, `substMono`) add exponent vectors
with `zipWith`, which truncates: each is the operation on polynomials only when all exponent vectors have
one length `m`, so every `eval_*` lemma comes with a `wf_*` lemma that carries the invariant `WF m`
through (`substMono_spec` proves both in one induction; `norm` keeps coefficients and exponent vectors,
`norm_spec`, hence value and invariant).  A passed table is read off the by-facet form of `Lemmas/PolyCheck.lean`; `sum_eq_of_same_keys`
(from `sum_by_keys`) is the idea behind `C03_h1_continuous`.  In this file `_mono` means monotone in the tolerance.
-/
namespace Skv.C03b
open Skv.C09

/-- the point `origin + Σ_k s_k · dirs_k` -/
def facetPoint (origin : List ℚ) (dirs : List (List ℚ)) (s : List ℚ) : List ℚ :=
  (List.range origin.length).map (fun i =>
    origin.getD i 0 + ((List.range dirs.length).map (fun k => s.getD k 0 * (dirs.getD k []).getD i 0)).sum)

/-- the one-sided trace of `u_h = Σ_i x[dof i] φ_i` on reference facet `f` at facet parameters `s` -/
def traceAt (vals : List Poly) (fmaps : List (List ℚ × List (List ℚ))) (dof : Nat → Nat) (x : Nat → ℚ)
    (f : Nat) (s : List ℚ) : ℚ :=
  ((List.range vals.length).map (fun i =>
    x (dof i) * (vals.getD i []).eval (facetPoint (fmaps.getD f ([], [])).1 (fmaps.getD f ([], [])).2 s))).sum

/-- well-formedness of the generated data of one element (lengths) -/
def WFElem (dim : Nat) (vals : List Poly) (fmaps : List (List ℚ × List (List ℚ))) : Prop :=
  (∀ v ∈ vals, ∀ t ∈ v, t.2.length = dim) ∧ (∀ fm ∈ fmaps, fm.1.length = dim ∧ ∀ d ∈ fm.2, d.length = dim)

theorem eval_map {α : Type} (l : List α) (f : α → ℚ × Mono) (x : List ℚ) :
    Poly.eval (l.map f) x = (l.map (fun k => (f k).1 * Poly.monoEval x (f k).2)).sum := by
  rw [Poly.eval, List.map_map]
  rfl

theorem eval_smul (c : ℚ) (p : Poly) (x : List ℚ) : (Poly.smul c p).eval x = c * p.eval x := by
  rw [Poly.smul, eval_map, Poly.eval, ← List.sum_map_mul_left]
  simp only [mul_assoc]

theorem eval_sum (ps : List Poly) (x : List ℚ) :
    (Poly.sum ps).eval x = (ps.map (fun p => p.eval x)).sum := by
  rw [Poly.sum, Poly.eval, List.map_flatten, List.sum_flatten, List.map_map]
  rfl

theorem monoEval_zipWith_add : ∀ (x : List ℚ) (a b : Mono), a.length = b.length →
    Poly.monoEval x (List.zipWith (· + ·) a b) = Poly.monoEval x a * Poly.monoEval x b
  | [], _, _, _ => by simp [monoEval_nil_left]
  | _ :: _, [], [], _ => by simp [monoEval_nil_right]
  | c :: xs, k :: as, l :: bs, h => by
    rw [List.zipWith_cons_cons, monoEval_cons, monoEval_cons, monoEval_cons,
      monoEval_zipWith_add xs as bs (Nat.succ.inj h), pow_add]
    ring

theorem eval_mul_term (s : ℚ × Mono) (q : Poly) (x : List ℚ)
    (hq : ∀ t ∈ q, t.2.length = s.2.length) :
    Poly.eval (q.map (fun t => (s.1 * t.1, List.zipWith (· + ·) s.2 t.2))) x
      = s.1 * Poly.monoEval x s.2 * q.eval x := by
  rw [eval_map, Poly.eval, ← List.sum_map_mul_left]
  refine congrArg List.sum (List.map_congr_left fun t ht => ?_)
  rw [monoEval_zipWith_add x s.2 t.2 (hq t ht).symm]
  ring

theorem eval_mul (m : Nat) (p q : Poly) (hp : WF m p) (hq : WF m q) (x : List ℚ) :
    (Poly.mul p q).eval x = p.eval x * q.eval x := by
  rw [Poly.mul, List.flatMap_def]
  refine (eval_sum _ x).trans ?_
  rw [List.map_map, Poly.eval, ← List.sum_map_mul_right]
  refine congrArg List.sum (List.map_congr_left fun s hs => ?_)
  exact eval_mul_term s q x fun t ht => by rw [hq t ht, hp s hs]

theorem eval_norm (p : Poly) (x : List ℚ) : (Poly.norm p).eval x = p.eval x :=
  eval_congr_coeff _ _ (norm_spec p).1 x

theorem wf_norm (m : Nat) (p : Poly) (hp : WF m p) : WF m (Poly.norm p) := fun t ht => by
  obtain ⟨u, hu, he⟩ := List.mem_map.mp (((norm_spec p).2.1 t.2).mp (mem_exps_of_mem ht))
  rw [← he]
  exact hp u hu

theorem wf_mul (m : Nat) (p q : Poly) (hp : WF m p) (hq : WF m q) : WF m (Poly.mul p q) := by
  intro t ht
  simp only [Poly.mul, List.mem_flatMap, List.mem_map] at ht
  obtain ⟨s, hs, u, hu, rfl⟩ := ht
  simp [hp s hs, hq u hu]

theorem wf_mulN (m : Nat) (p q : Poly) (hp : WF m p) (hq : WF m q) : WF m (Poly.mulN p q) :=
  wf_norm m _ (wf_mul m p q hp hq)

theorem eval_mulN (m : Nat) (p q : Poly) (hp : WF m p) (hq : WF m q) (x : List ℚ) :
    (Poly.mulN p q).eval x = p.eval x * q.eval x := by
  unfold Poly.mulN
  rw [eval_norm, eval_mul m p q hp hq]

theorem wf_const (m : Nat) (c : ℚ) : WF m (Poly.const m c) := by
  intro t ht
  simp only [Poly.const, List.mem_singleton] at ht
  rw [ht]; simp

theorem wf_pow (m : Nat) (p : Poly) (hp : WF m p) (n : Nat) : WF m (Poly.pow m p n) := by
  induction n with
  | zero => exact wf_const m 1
  | succ n ih => exact wf_mulN m p _ hp ih

theorem eval_pow (m : Nat) (p : Poly) (hp : WF m p) (n : Nat) (x : List ℚ) :
    (Poly.pow m p n).eval x = p.eval x ^ n := by
  induction n with
  | zero => rw [pow_zero]; exact eval_const_one m x
  | succ n ih =>
    have : Poly.pow m p (n + 1) = Poly.mulN p (Poly.pow m p n) := rfl
    rw [this, eval_mulN m p _ hp (wf_pow m p hp n), ih, pow_succ]
    ring

theorem wf_affineFn (m : Nat) (a : ℚ) (d : List ℚ) : WF m (Poly.affineFn m a d) := by
  intro t ht
  unfold Poly.affineFn at ht
  rcases List.mem_cons.mp ht with ht | ht
  · rw [ht]; simp
  · rw [List.mem_map] at ht
    obtain ⟨k, _, rfl⟩ := ht
    simp

theorem substMono_spec (m : Nat) (g : List Poly) (hg : ∀ p ∈ g, WF m p) (es : List Nat)
    (hlen : es.length ≤ g.length) :
    WF m (Poly.substMono m g es) ∧
      ∀ x, (Poly.substMono m g es).eval x = Poly.monoEval (g.map (fun p => p.eval x)) es := by
  induction es generalizing g with
  | nil => exact ⟨wf_const m 1, fun x => by rw [monoEval_nil_right]; exact eval_const_one m x⟩
  | cons e es ih =>
    cases g with
    | nil => simp at hlen
    | cons p g =>
      have hp := wf_pow m p (hg p (by simp)) e
      obtain ⟨hw, he⟩ := ih g (fun q hq => hg q (List.mem_cons_of_mem _ hq)) (by simpa using hlen)
      refine ⟨wf_mulN m _ _ hp hw, fun x => ?_⟩
      rw [show Poly.substMono m (p :: g) (e :: es) = Poly.mulN (Poly.pow m p e) (Poly.substMono m g es)
        from rfl, eval_mulN m _ _ hp hw, eval_pow m p (hg p (by simp)), he, List.map_cons, monoEval_cons]

theorem monoEval_unit (s : List ℚ) (k : Nat) (hk : k < s.length) :
    Poly.monoEval s ((List.range s.length).map (fun l => if l == k then 1 else 0)) = s.getD k 0 := by
  induction s generalizing k with
  | nil => exact absurd hk (Nat.not_lt_zero _)
  | cons a xs ih =>
    rw [List.length_cons, List.range_succ_eq_map, List.map_cons, List.map_map, monoEval_cons]
    cases k with
    | zero =>
      rw [show ((fun l => if l == 0 then 1 else 0) ∘ Nat.succ) = fun _ => 0 from rfl, List.map_const',
        monoEval_replicate_zero]
      simp
    | succ k => simpa [Function.comp_def] using ih k (Nat.lt_of_succ_lt_succ hk)

theorem eval_affineFn (m : Nat) (a : ℚ) (d : List ℚ) (s : List ℚ) (hs : s.length = m) :
    (Poly.affineFn m a d).eval s
      = a + ((List.range m).map (fun k => s.getD k 0 * d.getD k 0)).sum := by
  subst hs
  unfold Poly.affineFn
  rw [eval_cons, eval_map, monoEval_replicate_zero, mul_one]
  congr 1
  refine congrArg List.sum (List.map_congr_left (fun k hk => ?_))
  rw [monoEval_unit s k (List.mem_range.mp hk), mul_comm]

theorem affine_values (origin : List ℚ) (dirs : List (List ℚ)) (s : List ℚ)
    (hs : s.length = dirs.length) :
    ((List.range origin.length).map (fun i =>
        Poly.affineFn dirs.length (origin.getD i 0) (dirs.map (fun d => d.getD i 0)))).map
      (fun p => p.eval s) = facetPoint origin dirs s := by
  unfold facetPoint
  rw [List.map_map]
  refine List.map_congr_left (fun i _ => ?_)
  rw [Function.comp_apply, eval_affineFn _ _ _ s hs]
  congr 1
  refine congrArg List.sum (List.map_congr_left (fun k hk => ?_))
  rw [getD_map_of_lt _ dirs k 0 [] (List.mem_range.mp hk)]

theorem eval_substAffine (p : Poly) (origin : List ℚ) (dirs : List (List ℚ)) (s : List ℚ)
    (hp : ∀ t ∈ p, t.2.length = origin.length) (hs : s.length = dirs.length) :
    (p.substAffine origin dirs).eval s = p.eval (facetPoint origin dirs s) := by
  unfold Poly.substAffine
  simp only
  rw [eval_norm, eval_sum, List.map_map, ← affine_values origin dirs s hs, Poly.eval]
  refine congrArg List.sum (List.map_congr_left (fun t ht => ?_))
  rw [Function.comp_apply, eval_smul, (substMono_spec dirs.length _ ?_ t.2 ?_).2]
  · intro q hq
    rw [List.mem_map] at hq
    obtain ⟨i, _, rfl⟩ := hq
    exact wf_affineFn _ _ _
  · rw [List.length_map, List.length_range, hp t ht]

/-- `close` bounds all coefficient differences: the unlisted exponent vectors have coefficient 0 on both sides -/
theorem close_all (p q : Poly) (tol : ℚ) (h : Poly.close p q tol = true) (htol : 0 ≤ tol)
    (e : Mono) : |p.coeff e - q.coeff e| ≤ tol := by
  rw [close_iff] at h
  by_cases he : e ∈ p.exps ++ q.exps
  · exact h e he
  · rw [List.mem_append, not_or] at he
    rw [coeff_eq_zero_of_not_mem p e he.1, coeff_eq_zero_of_not_mem q e he.2, sub_zero, abs_zero]
    exact htol

theorem close_zero_coeff (p q : Poly) (h : Poly.close p q 0 = true) (e : Mono) :
    p.coeff e = q.coeff e := by
  have := close_all p q 0 h le_rfl e
  exact sub_eq_zero.mp (abs_nonpos_iff.mp this)

theorem close_zero_eval (p q : Poly) (h : Poly.close p q 0 = true) (x : List ℚ) :
    p.eval x = q.eval x :=
  eval_congr_coeff p q (close_zero_coeff p q h) x

theorem close_mono (p q : Poly) (tol tol' : ℚ) (hle : tol ≤ tol') (h : Poly.close p q tol = true) :
    Poly.close p q tol' = true := by
  rw [close_iff] at h ⊢
  exact fun e he => le_trans (h e he) hle

theorem close_trans (p q g : Poly) (t1 t2 : ℚ) (h1 : Poly.close p g t1 = true)
    (h2 : Poly.close q g t2 = true) (ht1 : 0 ≤ t1) (ht2 : 0 ≤ t2) :
    Poly.close p q (t1 + t2) = true := by
  rw [close_iff]
  intro e _
  have a := close_all p g t1 h1 ht1 e
  have b := close_all q g t2 h2 ht2 e
  have : p.coeff e - q.coeff e = (p.coeff e - g.coeff e) - (q.coeff e - g.coeff e) := by ring
  rw [this]
  exact le_trans (abs_sub _ _) (add_le_add a b)

theorem checkTraceTable_spec (vals : List Poly) (fmaps : List (List ℚ × List (List ℚ)))
    (keys : List (List (Option Nat))) (tol : ℚ) (h : checkTraceTable vals fmaps keys tol = true) :
    keys.length = fmaps.length ∧ (∀ r ∈ keys, r.length = vals.length) ∧
      ∀ f i, f < fmaps.length → i < vals.length → entryOk vals fmaps keys tol f i = true := by
  rw [checkTraceTable_eq_byFacet] at h
  simp only [checkTraceTableByFacet, Bool.and_eq_true, beq_iff_eq, List.all_eq_true,
    List.mem_range] at h
  exact ⟨h.1.1, h.1.2, fun f i hf hi => h.2 f hf i hi⟩

theorem entryOk_none (vals : List Poly) (fmaps : List (List ℚ × List (List ℚ)))
    (keys : List (List (Option Nat))) (tol : ℚ) (f i : Nat)
    (hk : (keys.getD f []).getD i none = none) (h : entryOk vals fmaps keys tol f i = true) :
    Poly.close (tr vals fmaps f i) [] tol = true := by
  unfold entryOk at h
  rw [hk] at h
  exact h

theorem entryOk_some (vals : List Poly) (fmaps : List (List ℚ × List (List ℚ)))
    (keys : List (List (Option Nat))) (tol : ℚ) (f i k : Nat)
    (hk : (keys.getD f []).getD i none = some k) (h : entryOk vals fmaps keys tol f i = true) :
    ∃ g j, firstKey keys fmaps.length vals.length k = some (g, j) ∧
      Poly.close (tr vals fmaps f i) (tr vals fmaps g j) tol = true := by
  unfold entryOk at h
  rw [hk] at h
  simp only at h
  generalize firstKey keys fmaps.length vals.length k = o at h ⊢
  cases o with
  | none => exact absurd h Bool.false_ne_true
  | some gj => exact ⟨gj.1, gj.2, rfl, h⟩

theorem entryOk_mono (vals : List Poly) (fmaps : List (List ℚ × List (List ℚ)))
    (keys : List (List (Option Nat))) (tol tol' : ℚ) (hle : tol ≤ tol') (f i : Nat)
    (h : entryOk vals fmaps keys tol f i = true) : entryOk vals fmaps keys tol' f i = true := by
  unfold entryOk at h ⊢
  generalize (keys.getD f []).getD i none = o at h ⊢
  cases o with
  | none => exact close_mono _ _ _ _ hle h
  | some k =>
    simp only at h ⊢
    generalize firstKey keys fmaps.length vals.length k = o at h ⊢
    cases o with
    | none => exact h
    | some gj => exact close_mono _ _ _ _ hle h

theorem checkKeys_spec (keys : List (List (Option Nat))) (h : checkKeys keys = true) :
    (∀ r ∈ keys, (r.filterMap id).Nodup) ∧
      (∀ r ∈ keys, ∀ r' ∈ keys, ∀ k, k ∈ r.filterMap id ↔ k ∈ r'.filterMap id) := by
  unfold checkKeys at h
  simp only [Bool.and_eq_true, List.all_eq_true, List.mem_map, forall_exists_index, and_imp,
    forall_apply_eq_imp_iff₂, decide_eq_true_eq, List.contains_iff_mem] at h
  refine ⟨h.1, fun r hr r' hr' k => ?_⟩
  exact ⟨fun hk => (h.2 r' hr').2 k ((h.2 r hr).1 k hk),
    fun hk => (h.2 r hr).2 k ((h.2 r' hr').1 k hk)⟩

theorem mem_filterMap_id_iff (r : List (Option Nat)) (k : Nat) :
    k ∈ r.filterMap id ↔ some k ∈ r := by
  simp only [List.mem_filterMap, id, exists_eq_right]

theorem mem_filterMap_of_getD (r : List (Option Nat)) (i k : Nat) (hk : r.getD i none = some k) :
    k ∈ r.filterMap id := by
  rw [mem_filterMap_id_iff]
  by_cases hi : i < r.length
  · rw [getD_eq_getElem r none hi] at hk
    rw [← hk]; exact List.getElem_mem hi
  · rw [List.getD_eq_default r none (not_lt.mp hi)] at hk
    exact absurd hk (by simp)

theorem idxOf_key_spec (r : List (Option Nat)) (k : Nat) (h : k ∈ r.filterMap id) :
    r.idxOf (some k) < r.length ∧ r.getD (r.idxOf (some k)) none = some k := by
  rw [mem_filterMap_id_iff] at h
  exact ⟨List.idxOf_lt_length_of_mem h, getD_idxOf h none⟩

/-- a sum over the positions of a row in which the unkeyed entries vanish and the keyed entries
    depend on the key only is a sum over the keys of the row -/
theorem sum_by_keys (r : List (Option Nat)) (a h : Nat → ℚ)
    (hnone : ∀ i, i < r.length → r.getD i none = none → a i = 0)
    (hsome : ∀ i k, i < r.length → r.getD i none = some k → a i = h k) :
    ((List.range r.length).map a).sum = ((r.filterMap id).map h).sum := by
  induction r generalizing a with
  | nil => rfl
  | cons o r ih =>
    rw [List.length_cons, List.range_succ_eq_map, List.map_cons, List.sum_cons, List.map_map,
      ih (a ∘ Nat.succ)
        (fun i hi hk => hnone (i + 1) (Nat.succ_lt_succ hi) hk)
        (fun i k hi hk => hsome (i + 1) k (Nat.succ_lt_succ hi) hk)]
    cases o with
    | none => rw [hnone 0 (Nat.succ_pos _) rfl, zero_add]; rfl
    | some k => rw [hsome 0 k (Nat.succ_pos _) rfl]; rfl

/-- two rows of length `n` carrying the same keys, each once: two sums over the positions whose unkeyed
    entries vanish and whose keyed entries agree across the rows whenever the keys do are equal (both are
    the sum over the keys of the entry that the second row has at the key) -/
theorem sum_eq_of_same_keys {n : Nat} (r r' : List (Option Nat)) (hr : r.length = n) (hr' : r'.length = n)
    (hnd : (r.filterMap id).Nodup) (hnd' : (r'.filterMap id).Nodup)
    (hsame : ∀ k, k ∈ r.filterMap id ↔ k ∈ r'.filterMap id) (a a' : Nat → ℚ)
    (hnone : ∀ i, i < n → r.getD i none = none → a i = 0)
    (hnone' : ∀ i, i < n → r'.getD i none = none → a' i = 0)
    (hsome : ∀ i i' k, i < n → i' < n → r.getD i none = some k → r'.getD i' none = some k → a i = a' i') :
    ((List.range n).map a).sum = ((List.range n).map a').sum := by
  subst hr
  rw [sum_by_keys r a (fun k => a' (r'.idxOf (some k))) hnone fun i k hi hk => ?left, ← hr',
    sum_by_keys r' a' (fun k => a' (r'.idxOf (some k))) (hr' ▸ hnone') fun i k hi hk => ?right]
  · exact (((List.perm_ext_iff_of_nodup hnd hnd').mpr hsame).map _).sum_eq
  case left =>
    obtain ⟨hl, hk'⟩ := idxOf_key_spec r' k ((hsame k).mp (mem_filterMap_of_getD r i k hk))
    exact hsome i _ k hi (hr' ▸ hl) hk hk'
  case right =>
    -- an entry of `r` with the same key links the two entries of `r'`
    have hm := mem_filterMap_of_getD r' i k hk
    obtain ⟨hl, hk'⟩ := idxOf_key_spec r' k hm
    obtain ⟨hl0, hk0⟩ := idxOf_key_spec r k ((hsame k).mpr hm)
    exact (hsome _ i k hl0 (hr' ▸ hi) hk0 hk).symm.trans (hsome _ _ k hl0 (hr' ▸ hl) hk0 hk')

end Skv.C03b
