import SkfemVerif.Model.Assembly
import SkfemVerif.Lemmas.List
import Mathlib.Algebra.BigOperators.Group.Finset.Sigma
import Mathlib.Algebra.BigOperators.Pi
import Mathlib.Algebra.BigOperators.Ring.Finset
import Mathlib.Tactic.Ring
/-
Lemmas about the assembly model: list sums over `List.range` / `flatMap` as `Finset` sums, flat positions in nested
ranges (the C-order flat arrays), and what `actionBil`, `denseEntry`, `cooDot` … read off a triplet list.
-/
namespace Skv

/-- a `Finset` sum is the sum of the underlying list -/
theorem sum_map_range {M : Type} [AddCommMonoid M] (n : Nat) (g : Nat → M) :
    ((List.range n).map g).sum = ∑ i ∈ Finset.range n, g i := rfl

theorem sum_map_flatMap_range {M β : Type} [AddCommMonoid M] (n : Nat) (g : Nat → List β)
    (h : β → M) :
    (((List.range n).flatMap g).map h).sum = ∑ i ∈ Finset.range n, ((g i).map h).sum := by
  rw [List.map_flatMap, List.flatMap_def, List.sum_flatten, List.map_map]
  rfl

theorem sum_filter_map {α M : Type} [AddCommMonoid M] (T : List α) (p : α → Bool) (g : α → M) :
    ((T.filter p).map g).sum = (T.map (fun t => if p t then g t else 0)).sum := by
  induction T with
  | nil => rfl
  | cons t T ih =>
    by_cases h : p t
    · simp [List.filter_cons_of_pos h, h, ih]
    · simp [List.filter_cons_of_neg h, h, ih]

theorem length_flatMap_range {β : Type} (n m : Nat) (g : Nat → List β)
    (hg : ∀ i < n, (g i).length = m) : ((List.range n).flatMap g).length = n * m := by
  rw [length_flatMap_uniform _ m g (fun a ha => hg a (List.mem_range.1 ha)), List.length_range]

theorem getElem?_flatMap_range {β : Type} (n m : Nat) (g : Nat → List β)
    (hg : ∀ i < n, (g i).length = m) (i k : Nat) (hi : i < n) (hk : k < m) :
    ((List.range n).flatMap g)[i * m + k]? = (g i)[k]? := by
  rw [getElem?_flatMap_uniform _ m g (fun a ha => hg a (List.mem_range.1 ha)) i k
    (List.length_range ▸ hi) hk, List.getElem_range]

/-! ### nested ranges: `data.flatten('C')` of an array of shape `(b, c)` or `(a, b, c)`

Every flat array of the form modules has this shape: entry `(i, k)` at flat position `c * i + k` (`linearPairs`,
`nlResPairs`), entry `(j, i, k)` at `c * (b * j + i) + k` (`bilinearTriplets`, `nlJacTriplets`, the block and
projection tables). -/

theorem length_flatMap_flatMap_map_range {β : Type} (a b c : Nat) (τ : Nat → Nat → Nat → β) :
    ((List.range a).flatMap fun j => (List.range b).flatMap fun i =>
      (List.range c).map (τ j i)).length = a * b * c := by
  rw [length_flatMap_range a (b * c) _ (fun j _ =>
    length_flatMap_range b c _ (fun i _ => by simp)), Nat.mul_assoc]

theorem getElem?_flatMap_map_range {β : Type} (b c : Nat) (τ : Nat → Nat → β) (i k : Nat)
    (hi : i < b) (hk : k < c) :
    ((List.range b).flatMap fun i => (List.range c).map (τ i))[c * i + k]? = some (τ i k) := by
  rw [Nat.mul_comm, getElem?_flatMap_range b c _ (fun i _ => by simp) i k hi hk]
  simp [hk]

theorem getElem?_flatMap_flatMap_map_range {β : Type} (a b c : Nat) (τ : Nat → Nat → Nat → β)
    (j i k : Nat) (hj : j < a) (hi : i < b) (hk : k < c) :
    ((List.range a).flatMap fun j => (List.range b).flatMap fun i =>
      (List.range c).map (τ j i))[c * (b * j + i) + k]? = some (τ j i k) := by
  have e : c * (b * j + i) + k = j * (b * c) + (c * i + k) := by ring
  have hik : c * i + k < b * c := Nat.mul_comm c i ▸ mul_add_lt_mul hk hi
  rw [e, getElem?_flatMap_range a (b * c) _
      (fun j _ => length_flatMap_range b c _ (fun i _ => by simp)) j _ hj hik]
  exact getElem?_flatMap_map_range b c (τ j) i k hi hk

theorem sum_map_flatMap_map_range {β M : Type} [AddCommMonoid M] (b c : Nat) (τ : Nat → Nat → β)
    (φ : β → M) :
    (((List.range b).flatMap fun i => (List.range c).map (τ i)).map φ).sum
      = ∑ i ∈ Finset.range b, ∑ k ∈ Finset.range c, φ (τ i k) := by
  rw [sum_map_flatMap_range]
  refine Finset.sum_congr rfl (fun i _ => ?_)
  rw [List.map_map, sum_map_range]
  rfl

theorem sum_map_flatMap_flatMap_map_range {β M : Type} [AddCommMonoid M] (a b c : Nat)
    (τ : Nat → Nat → Nat → β) (φ : β → M) :
    (((List.range a).flatMap fun j => (List.range b).flatMap fun i =>
      (List.range c).map (τ j i)).map φ).sum
      = ∑ j ∈ Finset.range a, ∑ i ∈ Finset.range b, ∑ k ∈ Finset.range c, φ (τ j i k) := by
  rw [sum_map_flatMap_range]
  exact Finset.sum_congr rfl (fun j _ => sum_map_flatMap_map_range b c (τ j) φ)

section Semiring
variable {K : Type} [CommSemiring K]

theorem kernelBil_eq_sum (nq : Nat) (f : Sample K → Sample K → Sample K → K)
    (ub vb : BasisData K) (w : Nat → Nat → Sample K) (dx : Nat → Nat → K) (j i k : Nat) :
    kernelBil nq f ub vb w dx j i k
      = ∑ q ∈ Finset.range nq, f (ub j k q) (vb i k q) (w k q) * dx k q := rfl

theorem kernelLin_eq_sum (nq : Nat) (f : Sample K → Sample K → K)
    (vb : BasisData K) (w : Nat → Nat → Sample K) (dx : Nat → Nat → K) (i k : Nat) :
    kernelLin nq f vb w dx i k = ∑ q ∈ Finset.range nq, f (vb i k q) (w k q) * dx k q := rfl

theorem interp_apply (N : Nat) (x : Nat → K) (dofs : Nat → Nat → Nat) (b : BasisData K)
    (k q c : Nat) :
    interp N x dofs b k q c = ∑ j ∈ Finset.range N, x (dofs j k) * b j k q c := rfl

theorem interp_eq_sum_smul (N : Nat) (x : Nat → K) (dofs : Nat → Nat → Nat) (b : BasisData K)
    (k q : Nat) :
    interp N x dofs b k q = ∑ j ∈ Finset.range N, x (dofs j k) • b j k q := by
  funext c
  rw [interp_apply, Finset.sum_apply]
  rfl

/-! ### what can be read off a COO list is a sum over its triplets

`actionBil` and `actionLin` are such sums by definition; `denseEntry`, `denseVecEntry` and `cooDot` filter first,
which `sum_filter_map` turns into a sum of `if … then … else 0`. -/

theorem denseEntry_eq_sum_ite (T : List (Nat × Nat × K)) (r c : Nat) :
    denseEntry T r c = (T.map (fun t => if t.1 = r ∧ t.2.1 = c then t.2.2 else 0)).sum := by
  unfold denseEntry
  rw [sum_filter_map]
  simp only [Bool.and_eq_true, beq_iff_eq]

theorem denseVecEntry_eq_sum_ite (T : List (Nat × K)) (r : Nat) :
    denseVecEntry T r = (T.map (fun t => if t.1 = r then t.2 else 0)).sum := by
  unfold denseVecEntry
  rw [sum_filter_map]
  simp only [beq_iff_eq]

theorem cooDot_eq_sum_ite (T : List (Nat × Nat × K)) (x : Nat → K) (r : Nat) :
    cooDot T x r = (T.map (fun t => if t.1 = r then t.2.2 * x t.2.1 else 0)).sum := by
  unfold cooDot
  rw [sum_filter_map]
  simp only [beq_iff_eq]

theorem denseEntry_nil (r c : Nat) : denseEntry ([] : List (Nat × Nat × K)) r c = 0 := rfl

theorem denseEntry_cons (t : Nat × Nat × K) (T : List (Nat × Nat × K)) (r c : Nat) :
    denseEntry (t :: T) r c
      = (if t.1 = r ∧ t.2.1 = c then t.2.2 else 0) + denseEntry T r c := by
  rw [denseEntry_eq_sum_ite, denseEntry_eq_sum_ite, List.map_cons, List.sum_cons]

theorem denseEntry_append (T1 T2 : List (Nat × Nat × K)) (r c : Nat) :
    denseEntry (T1 ++ T2) r c = denseEntry T1 r c + denseEntry T2 r c := by
  unfold denseEntry
  rw [List.filter_append, List.map_append, List.sum_append]

theorem denseEntry_flatten (Ts : List (List (Nat × Nat × K))) (r c : Nat) :
    denseEntry Ts.flatten r c = (Ts.map (fun T => denseEntry T r c)).sum := by
  induction Ts with
  | nil => rfl
  | cons T Ts ih => rw [List.flatten_cons, denseEntry_append, ih, List.map_cons, List.sum_cons]

theorem denseEntry_perm (T1 T2 : List (Nat × Nat × K)) (h : T1.Perm T2) (r c : Nat) :
    denseEntry T1 r c = denseEntry T2 r c :=
  ((h.filter _).map _).sum_eq

theorem denseVecEntry_append (T1 T2 : List (Nat × K)) (r : Nat) :
    denseVecEntry (T1 ++ T2) r = denseVecEntry T1 r + denseVecEntry T2 r := by
  unfold denseVecEntry
  rw [List.filter_append, List.map_append, List.sum_append]

theorem cooDot_nil (x : Nat → K) (r : Nat) : cooDot ([] : List (Nat × Nat × K)) x r = 0 := rfl

theorem cooDot_cons (t : Nat × Nat × K) (T : List (Nat × Nat × K)) (x : Nat → K) (r : Nat) :
    cooDot (t :: T) x r = (if t.1 = r then t.2.2 * x t.2.1 else 0) + cooDot T x r := by
  rw [cooDot_eq_sum_ite, cooDot_eq_sum_ite, List.map_cons, List.sum_cons]

theorem cooDot_append (T1 T2 : List (Nat × Nat × K)) (x : Nat → K) (r : Nat) :
    cooDot (T1 ++ T2) x r = cooDot T1 x r + cooDot T2 x r := by
  unfold cooDot
  rw [List.filter_append, List.map_append, List.sum_append]

theorem actionBil_cons (t : Nat × Nat × K) (T : List (Nat × Nat × K)) (u v : Nat → K) :
    actionBil (t :: T) u v = v t.1 * t.2.2 * u t.2.1 + actionBil T u v := rfl

theorem actionBil_append (T1 T2 : List (Nat × Nat × K)) (u v : Nat → K) :
    actionBil (T1 ++ T2) u v = actionBil T1 u v + actionBil T2 u v := by
  unfold actionBil
  rw [List.map_append, List.sum_append]

theorem actionLin_append (T1 T2 : List (Nat × K)) (v : Nat → K) :
    actionLin (T1 ++ T2) v = actionLin T1 v + actionLin T2 v := by
  unfold actionLin
  rw [List.map_append, List.sum_append]

theorem actionBil_congr (T : List (Nat × Nat × K)) (u u' v v' : Nat → K)
    (h : ∀ t ∈ T, u t.2.1 = u' t.2.1 ∧ v t.1 = v' t.1) : actionBil T u v = actionBil T u' v' := by
  unfold actionBil
  congr 1
  apply List.map_congr_left
  intro t ht
  rw [(h t ht).1, (h t ht).2]

theorem actionBil_zero_left (T : List (Nat × Nat × K)) (u v : Nat → K)
    (h : ∀ t ∈ T, u t.2.1 = 0) : actionBil T u v = 0 :=
  List.sum_eq_zero (List.forall_mem_map.2 fun t ht => by rw [h t ht, mul_zero])

theorem actionBil_zero_right (T : List (Nat × Nat × K)) (u v : Nat → K)
    (h : ∀ t ∈ T, v t.1 = 0) : actionBil T u v = 0 :=
  List.sum_eq_zero (List.forall_mem_map.2 fun t ht => by rw [h t ht, zero_mul, zero_mul])

theorem actionLin_unit (T : List (Nat × K)) (r : Nat) :
    actionLin T (fun i => if i = r then 1 else 0) = denseVecEntry T r := by
  rw [denseVecEntry_eq_sum_ite]
  refine congrArg List.sum (List.map_congr_left (fun t _ => ?_))
  by_cases h : t.1 = r <;> simp [h]

theorem actionBil_unit_left (T : List (Nat × Nat × K)) (u : Nat → K) (r : Nat) :
    actionBil T u (fun i => if i = r then 1 else 0) = cooDot T u r := by
  rw [cooDot_eq_sum_ite]
  refine congrArg List.sum (List.map_congr_left (fun t _ => ?_))
  by_cases h : t.1 = r <;> simp [h]

theorem actionBil_unit (T : List (Nat × Nat × K)) (r c : Nat) :
    actionBil T (fun x => if x = c then 1 else 0) (fun x => if x = r then 1 else 0)
      = denseEntry T r c := by
  rw [denseEntry_eq_sum_ite]
  refine congrArg List.sum (List.map_congr_left (fun t _ => ?_))
  by_cases h1 : t.1 = r <;> by_cases h2 : t.2.1 = c <;> simp [h1, h2]

theorem single_one_eq_ite (c : Nat) :
    (Pi.single c 1 : Nat → K) = fun x => if x = c then 1 else 0 :=
  funext fun x => Pi.single_apply c 1 x

theorem cooDot_single (T : List (Nat × Nat × K)) (r c : Nat) :
    cooDot T (Pi.single c 1) r = denseEntry T r c := by
  rw [single_one_eq_ite, ← actionBil_unit_left, actionBil_unit]

theorem cooDot_eq_dense (T : List (Nat × Nat × K)) (Nc : Nat) (hT : ∀ t ∈ T, t.2.1 < Nc)
    (x : Nat → K) (r : Nat) :
    cooDot T x r = ∑ c ∈ Finset.range Nc, denseEntry T r c * x c := by
  induction T with
  | nil => simp [cooDot_nil, denseEntry_nil]
  | cons t T ih =>
    rw [cooDot_cons, ih fun t' h' => hT t' (List.mem_cons_of_mem _ h')]
    simp only [denseEntry_cons, add_mul, Finset.sum_add_distrib, ite_and, ite_mul, zero_mul,
      Finset.sum_ite_irrel, Finset.sum_const_zero, Finset.sum_ite_eq, Finset.mem_range,
      if_pos (hT t List.mem_cons_self)]

theorem actionBil_eq_dense (T : List (Nat × Nat × K)) (Nr Nc : Nat)
    (hT : ∀ t ∈ T, t.1 < Nr ∧ t.2.1 < Nc) (u v : Nat → K) :
    actionBil T u v
      = ∑ r ∈ Finset.range Nr, ∑ c ∈ Finset.range Nc, v r * denseEntry T r c * u c := by
  induction T with
  | nil => simp [actionBil, denseEntry_nil]
  | cons t T ih =>
    rw [actionBil_cons, ih fun t' h' => hT t' (List.mem_cons_of_mem _ h')]
    simp only [denseEntry_cons, mul_add, add_mul, Finset.sum_add_distrib, ite_and, mul_ite, ite_mul,
      zero_mul, mul_zero, Finset.sum_ite_irrel, Finset.sum_const_zero, Finset.sum_ite_eq,
      Finset.mem_range, if_pos (hT t List.mem_cons_self).1, if_pos (hT t List.mem_cons_self).2]

theorem exists_mem_of_denseEntry_ne_zero (T : List (Nat × Nat × K)) (r c : Nat)
    (h : denseEntry T r c ≠ 0) : ∃ t ∈ T, t.1 = r ∧ t.2.1 = c := by
  rw [denseEntry_eq_sum_ite] at h
  obtain ⟨x, hx, hx0⟩ := List.exists_mem_ne_zero_of_sum_ne_zero h
  obtain ⟨t, ht, rfl⟩ := List.mem_map.1 hx
  exact ⟨t, ht, of_not_not (fun hn => hx0 (if_neg hn))⟩

theorem mem_bilinearTriplets {Nu Nv nt nq : Nat} {f : Sample K → Sample K → Sample K → K}
    {ub vb : BasisData K} {w : Nat → Nat → Sample K} {dx : Nat → Nat → K}
    {udofs vdofs : Nat → Nat → Nat} {t : Nat × Nat × K} :
    t ∈ bilinearTriplets Nu Nv nt nq f ub vb w dx udofs vdofs ↔
      ∃ j < Nu, ∃ i < Nv, ∃ k < nt,
        t = (vdofs i k, udofs j k, kernelBil nq f ub vb w dx j i k) := by
  unfold bilinearTriplets
  simp only [List.mem_flatMap, List.mem_map, List.mem_range, eq_comm]

theorem mem_bilinearTriplets_lt (Nu Nv nt nq Nr Nc : Nat) (f : Sample K → Sample K → Sample K → K)
    (ub vb : BasisData K) (w : Nat → Nat → Sample K) (dx : Nat → Nat → K)
    (udofs vdofs : Nat → Nat → Nat)
    (hu : ∀ j < Nu, ∀ k < nt, udofs j k < Nc) (hv : ∀ i < Nv, ∀ k < nt, vdofs i k < Nr) :
    ∀ t ∈ bilinearTriplets Nu Nv nt nq f ub vb w dx udofs vdofs, t.1 < Nr ∧ t.2.1 < Nc := by
  intro t ht
  obtain ⟨j, hj, i, hi, k, hk, rfl⟩ := mem_bilinearTriplets.1 ht
  exact ⟨hv i hi k hk, hu j hj k hk⟩

theorem actionBil_bilinearTriplets (Nu Nv nt nq : Nat) (f : Sample K → Sample K → Sample K → K)
    (ub vb : BasisData K) (w : Nat → Nat → Sample K) (dx : Nat → Nat → K)
    (udofs vdofs : Nat → Nat → Nat) (u v : Nat → K) :
    actionBil (bilinearTriplets Nu Nv nt nq f ub vb w dx udofs vdofs) u v
      = ∑ j ∈ Finset.range Nu, ∑ i ∈ Finset.range Nv, ∑ k ∈ Finset.range nt,
          v (vdofs i k) * kernelBil nq f ub vb w dx j i k * u (udofs j k) :=
  sum_map_flatMap_flatMap_map_range Nu Nv nt _ _

theorem actionLin_linearPairs (Nv nt nq : Nat) (f : Sample K → Sample K → K)
    (vb : BasisData K) (w : Nat → Nat → Sample K) (dx : Nat → Nat → K)
    (vdofs : Nat → Nat → Nat) (v : Nat → K) :
    actionLin (linearPairs Nv nt nq f vb w dx vdofs) v
      = ∑ i ∈ Finset.range Nv, ∑ k ∈ Finset.range nt,
          v (vdofs i k) * kernelLin nq f vb w dx i k :=
  sum_map_flatMap_map_range Nv nt _ _

theorem cooDot_bilinearTriplets (Nu Nv nt nq : Nat) (f : Sample K → Sample K → Sample K → K)
    (ub vb : BasisData K) (w : Nat → Nat → Sample K) (dx : Nat → Nat → K)
    (udofs vdofs : Nat → Nat → Nat) (e : Nat → K) (r : Nat) :
    cooDot (bilinearTriplets Nu Nv nt nq f ub vb w dx udofs vdofs) e r
      = ∑ j ∈ Finset.range Nu, ∑ i ∈ Finset.range Nv, ∑ k ∈ Finset.range nt,
          if vdofs i k = r then kernelBil nq f ub vb w dx j i k * e (udofs j k) else 0 := by
  rw [cooDot_eq_sum_ite]
  exact sum_map_flatMap_flatMap_map_range Nu Nv nt _ _

theorem denseVecEntry_linearPairs (Nv nt nq : Nat) (f : Sample K → Sample K → K)
    (vb : BasisData K) (w : Nat → Nat → Sample K) (dx : Nat → Nat → K)
    (vdofs : Nat → Nat → Nat) (r : Nat) :
    denseVecEntry (linearPairs Nv nt nq f vb w dx vdofs) r
      = ∑ i ∈ Finset.range Nv, ∑ k ∈ Finset.range nt,
          if vdofs i k = r then kernelLin nq f vb w dx i k else 0 := by
  rw [denseVecEntry_eq_sum_ite]
  exact sum_map_flatMap_map_range Nv nt _ _

theorem map_sum_smul_of_linear (g : Sample K → K)
    (hadd : ∀ a a', g (a + a') = g a + g a') (hsmul : ∀ (c : K) a, g (c • a) = c * g a)
    (hzero : g 0 = 0) (n : Nat) (c : Nat → K) (a : Nat → Sample K) :
    g (∑ j ∈ Finset.range n, c j • a j) = ∑ j ∈ Finset.range n, c j * g (a j) := by
  induction n with
  | zero => simpa using hzero
  | succ n ih => rw [Finset.sum_range_succ, Finset.sum_range_succ, hadd, hsmul, ih]

theorem bilinear_sum_reorder (Nu Nv nt nq : Nat) (F : Nat → Nat → Nat → Nat → K)
    (cu cv dx : Nat → Nat → K) :
    ∑ j ∈ Finset.range Nu, ∑ i ∈ Finset.range Nv, ∑ k ∈ Finset.range nt,
        cv i k * (∑ q ∈ Finset.range nq, F j i k q * dx k q) * cu j k
      = ∑ k ∈ Finset.range nt, ∑ q ∈ Finset.range nq,
          (∑ j ∈ Finset.range Nu, ∑ i ∈ Finset.range Nv, cu j k * (cv i k * F j i k q)) * dx k q := by
  simp only [Finset.mul_sum, Finset.sum_mul]
  rw [Finset.sum_comm_cycle]
  refine Finset.sum_congr rfl fun k _ => ?_
  rw [Finset.sum_comm_cycle]
  refine Finset.sum_congr rfl fun q _ => Finset.sum_congr rfl fun j _ =>
    Finset.sum_congr rfl fun i _ => ?_
  ring

theorem linear_sum_reorder (Nv nt nq : Nat) (F : Nat → Nat → Nat → K) (cv dx : Nat → Nat → K) :
    ∑ i ∈ Finset.range Nv, ∑ k ∈ Finset.range nt,
        cv i k * (∑ q ∈ Finset.range nq, F i k q * dx k q)
      = ∑ k ∈ Finset.range nt, ∑ q ∈ Finset.range nq,
          (∑ i ∈ Finset.range Nv, cv i k * F i k q) * dx k q := by
  simpa only [Finset.sum_range_one, mul_one, one_mul] using
    bilinear_sum_reorder 1 Nv nt nq (fun _ i k q => F i k q) (fun _ _ => 1) cv dx

end Semiring

section Ring
variable {K : Type} [CommRing K]

theorem denseEntry_bilinearTriplets (Nu Nv nt nq : Nat)
    (f : Sample K → Sample K → Sample K → K)
    (ub vb : BasisData K) (w : Nat → Nat → Sample K) (dx : Nat → Nat → K)
    (udofs vdofs : Nat → Nat → Nat) (r c : Nat) :
    denseEntry (bilinearTriplets Nu Nv nt nq f ub vb w dx udofs vdofs) r c
      = ∑ j ∈ Finset.range Nu, ∑ i ∈ Finset.range Nv, ∑ k ∈ Finset.range nt,
          if vdofs i k = r ∧ udofs j k = c then kernelBil nq f ub vb w dx j i k else 0 := by
  rw [denseEntry_eq_sum_ite]
  exact sum_map_flatMap_flatMap_map_range Nu Nv nt _ _

theorem denseVecEntry_map_neg (T : List (Nat × K)) (r : Nat) :
    denseVecEntry (T.map (fun p => (p.1, -p.2))) r = -denseVecEntry T r := by
  rw [denseVecEntry_eq_sum_ite, denseVecEntry_eq_sum_ite, List.map_map, neg_eq_neg_one_mul,
    ← List.sum_map_mul_left]
  refine congrArg List.sum (List.map_congr_left (fun t _ => ?_))
  by_cases h : t.1 = r <;> simp [h]

theorem actionLin_map_neg (T : List (Nat × K)) (v : Nat → K) :
    actionLin (T.map (fun p => (p.1, -p.2))) v = -actionLin T v := by
  unfold actionLin
  rw [List.map_map, neg_eq_neg_one_mul, ← List.sum_map_mul_left]
  exact congrArg List.sum (List.map_congr_left (fun t _ => by simp))

end Ring

end Skv
