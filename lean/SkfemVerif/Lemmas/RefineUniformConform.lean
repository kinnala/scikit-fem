import SkfemVerif.Lemmas.RefineUniform
/-
Conformity of uniform refinement: the split of a facet is a function of the facet only.  Written in the facet's
own terms (`wlocal`) the refined facets on a facet are one pattern for every slot, template and symmetry of the
positions: a finite table (`patternOk`).  The number of a word depends only on its kind and the global vertices of
its support (`num_eq_of_support`, by C11), so equal patterns give equal refined facets in every mesh.
-/
namespace Skv.Refine

/-- orders word tuples; `code % 4` tells the constructor -/
def Src.code : Src → Nat
  | .v i => 4 * i
  | .e j => 4 * j + 1
  | .f j => 4 * j + 2
  | .c => 3

/-- local vertices of the parent entity a word is the midpoint of -/
def Src.support (kd : Kind) : Src → List Nat
  | .v i => [i]
  | .e j => kd.edges.getD j []
  | .f j => kd.facets.getD j []
  | .c => List.range kd.nverts

/-- the point named by `w` lies on the parent's facet `s` -/
def Src.onFacet (kd : Kind) (s : Nat) (w : Src) : Bool :=
  (w.support kd).all (fun i => (kd.facets.getD s []).contains i)

/-- the facets of a child `w`, as word tuples -/
def childFacetWords (kd : Kind) (w : List Src) : List (List Src) :=
  kd.facets.map (fun slot => slot.map (fun i => w.getD i default))

/-- the child facets of template `T` that lie on the parent's facet `s` -/
def facetWordsOn (kd : Kind) (T : Template) (s : Nat) : List (List Src) :=
  (T.flatMap (childFacetWords kd)).filter (fun fw => fw.all (Src.onFacet kd s))

/-- the child facets of template `T` that lie on no facet of the parent -/
def interiorFacetWords (kd : Kind) (T : Template) : List (List Src) :=
  (T.flatMap (childFacetWords kd)).filter
    (fun fw => (List.range kd.facets.length).all (fun s => !(fw.all (Src.onFacet kd s))))

def insertW (x : Src) : List Src → List Src
  | [] => [x]
  | y :: ys => if x.code ≤ y.code then x :: y :: ys else y :: insertW x ys

/-- canonical form of a word tuple -/
def canonW (l : List Src) : List Src := l.foldr insertW []

theorem perm_map_of_perm_map {α β γ δ : Type} (a : α → γ) (b : β → γ) (f : α → δ) (g : β → δ)
    {l₁ : List α} {l₂ : List β} (h : ∀ x ∈ l₁, ∀ y ∈ l₂, a x = b y → f x = g y)
    (hp : (l₁.map a).Perm (l₂.map b)) : (l₁.map f).Perm (l₂.map g) := by
  -- a rearrangement of an image is the image of a rearrangement `m`
  obtain ⟨m, hm, hmp⟩ : Relation.Comp (· = List.map b ·) List.Perm (l₁.map a) l₂ := by
    rwa [List.eq_map_comp_perm]
  refine .trans (.of_eq ?_) (hmp.map g)
  have hl : l₁.length = m.length := by simpa using congrArg List.length hm
  refine List.ext_getElem (by simpa using hl) fun i h1 h2 => ?_
  rw [List.getElem_map, List.getElem_map]
  refine h _ (List.getElem_mem _) _ (hmp.subset (List.getElem_mem _)) ?_
  have := List.getElem_of_eq hm (i := i) (by simpa using h1)
  rwa [List.getElem_map, List.getElem_map] at this

/-- insertion sort by a key: *some* rearrangement that brings the lists compared in `patternOk` into the same
    order; the proofs use only that it is a permutation -/
def sortBy {α : Type} (key : α → Nat) : List α → List α
  | [] => []
  | x :: xs => ins x (sortBy key xs)
where ins (x : α) : List α → List α
  | [] => [x]
  | y :: ys => if key x ≤ key y then x :: y :: ys else y :: ins x ys

theorem perm_sortBy {α : Type} (key : α → Nat) (l : List α) : (sortBy key l).Perm l := by
  have hins : ∀ x l, (sortBy.ins key x l).Perm (x :: l) := by
    intro x l
    induction l with
    | nil => exact List.Perm.refl _
    | cons y ys ih =>
      simp only [sortBy.ins]
      split
      · exact List.Perm.refl _
      · exact (List.Perm.cons y ih).trans (List.Perm.swap x y ys)
  induction l with
  | nil => exact List.Perm.refl _
  | cons x xs ih => exact (hins x _).trans (List.Perm.cons x ih)

/-- symmetries of the positions in a facet: all permutations, but the dihedral group for the faces of a
    hexahedron (two cells traverse a shared face in the same cyclic order up to rotation and reflection) -/
def posSyms : Kind → List (List Nat)
  | .line => [[0]]
  | .tri => [[0, 1], [1, 0]]
  | .quad => [[0, 1], [1, 0]]
  | .tet => [[0, 1, 2], [0, 2, 1], [1, 0, 2], [1, 2, 0], [2, 0, 1], [2, 1, 0]]
  | .hex => [[0, 1, 2, 3], [1, 2, 3, 0], [2, 3, 0, 1], [3, 0, 1, 2],
             [3, 2, 1, 0], [2, 1, 0, 3], [1, 0, 3, 2], [0, 3, 2, 1]]

/-- admissible correspondences local vertex of facet `s` ↦ local vertex of facet `s'` -/
def admissible (kd : Kind) (s s' : Nat) : List (List (Nat × Nat)) :=
  (posSyms kd).map (fun σ =>
    (kd.facets.getD s []).zip (σ.map (fun q => (kd.facets.getD s' []).getD q 0)))

def applyPi (π : List (Nat × Nat)) (i : Nat) : Nat := ((π.find? (·.1 == i)).map (·.2)).getD 0

/-- the sorted global vertex tuples of the refined facets of cell `k` lying on its facet `s` -/
def refinedFacetsOn (kd : Kind) (E : Env) (T : Template) (k s : Nat) : List (List Nat) :=
  (facetWordsOn kd T s).map (fun fw => sortCol (fw.map (E.num k)))

/-- the child lists of a cell type (tetrahedra: one per choice of the inner diagonal) -/
def tmpls : Kind → List Template
  | .line => [lineT]
  | .tri => [triT]
  | .quad => [quadT]
  | .hex => [hexT]
  | .tet => [tetCornerT ++ tetMidT 0, tetCornerT ++ tetMidT 1, tetCornerT ++ tetMidT 2]

/-- inside one parent every refined facet that lies on none of its facets is shared by exactly
    two children, and the refined facets on the parent's facets are pairwise different -/
def interiorPaired (kd : Kind) (T : Template) : Bool :=
  let L := (interiorFacetWords kd T).map canonW
  let B := ((List.range kd.facets.length).flatMap (facetWordsOn kd T)).map canonW
  L.all (fun x => L.count x == 2) && B.all (fun x => B.count x == 1) &&
  L.length + B.length == (T.flatMap (childFacetWords kd)).length

theorem facetWordsOn_onFacet (kd : Kind) (T : Template) (s : Nat) :
    ∀ fw ∈ facetWordsOn kd T s, ∀ w ∈ fw, w.onFacet kd s = true := by
  intro fw hfw w hw
  simp only [facetWordsOn, List.mem_filter] at hfw
  exact List.all_eq_true.mp hfw.2 w hw

/-- looking `a` up in `l.zip r` reads `r` at the position of `a` in `l` -/
theorem applyPi_zip (l r : List Nat) {a : Nat} (ha : a ∈ l) (hr : l.length ≤ r.length) :
    applyPi (l.zip r) a = r.getD (l.idxOf a) 0 := by
  induction l generalizing r with
  | nil => simp at ha
  | cons b l ih =>
    cases r with
    | nil => simp at hr
    | cons c r =>
      by_cases hb : b = a
      · simp [applyPi, hb]
      · have := ih r ((List.mem_cons.mp ha).resolve_left (Ne.symm hb)) (by simpa using hr)
        simp only [applyPi] at this ⊢
        rw [List.zip_cons_cons, List.find?_cons, beq_false_of_ne hb, idxOf_cons_ne hb, List.getD_cons_succ]
        exact this

theorem facets_ok (kd : Kind) : ∀ s, s < kd.facets.length →
    List.range (kd.facets.getD s []).length ∈ posSyms kd ∧
    (kd.facets.getD s []).length = (kd.facets.getD 0 []).length ∧
    ∀ σ ∈ posSyms kd, σ.length = (kd.facets.getD s []).length ∧ ∀ q ∈ σ, q < (kd.facets.getD s []).length := by
  cases kd <;> decide

theorem applyPi_admissible {kd : Kind} {s s' : Nat} (hs : s < kd.facets.length) {σ : List Nat}
    (hσ : σ ∈ posSyms kd) {a : Nat} (ha : a ∈ kd.facets.getD s []) :
    applyPi ((kd.facets.getD s []).zip (σ.map (fun q => (kd.facets.getD s' []).getD q 0))) a
      = (kd.facets.getD s' []).getD (σ.getD ((kd.facets.getD s []).idxOf a) 0) 0 := by
  have hlen := ((facets_ok kd s hs).2.2 σ hσ).1
  rw [applyPi_zip _ _ ha (by rw [List.length_map, hlen]),
    getD_map_of_lt _ _ _ 0 0 (hlen ▸ List.idxOf_lt_length_of_mem ha)]
theorem num_eq_of_support {kd : Kind} {E : Env} (hE : EnvOk kd E) {k k' : Nat} (hk : k < E.cells.length)
    (hk' : k' < E.cells.length) {w w' : Src} (hw : w.ok kd = true) (hw' : w'.ok kd = true) (hc : w ≠ .c)
    (hkind : w.code % 4 = w'.code % 4)
    (hsup : sortCol (slotCol (E.cells.getD k []) (w.support kd))
      = sortCol (slotCol (E.cells.getD k' []) (w'.support kd))) :
    E.num k w = E.num k' w' := by
  cases w <;> cases w' <;> simp only [Src.code, Nat.mul_mod_right, Nat.mul_add_mod, Nat.reduceMod, Nat.reduceEqDiff] at hkind
  · simpa [Src.support, slotCol, sortCol, insertSorted, Env.num] using hsup
  · simp only [Src.ok, decide_eq_true_eq] at hw hw'
    simp only [Env.num, hE.t2e, (entityMapping_getD_eq_iff _ _ hw hk hw' hk').mpr hsup]
  · simp only [Src.ok, Bool.and_eq_true, decide_eq_true_eq] at hw hw'
    have hne : kd ≠ .tet := by rintro rfl; simp at hw
    simp only [Env.num, hE.t2f hne, (entityMapping_getD_eq_iff _ _ hw.2 hk hw'.2 hk').mpr hsup]
  · exact absurd rfl hc

/-- a word on facet `s` in the facet's own terms: its kind, then the positions (moved by `σ`)
    that the vertices of its support have in the facet's vertex list -/
def wlocal (kd : Kind) (s : Nat) (σ : List Nat) (w : Src) : List Nat :=
  (w.code % 4) :: sortCol ((w.support kd).map (fun i => σ.getD ((kd.facets.getD s []).idxOf i) 0))

/-- the refined facets on facet `s`, in the facet's own terms; the sort key reads a word's digits in base 8
    (a kind is < 4, a position < 4, so different words get different keys) -/
def facetPattern (kd : Kind) (T : Template) (s : Nat) (σ : List Nat) : List (List (List Nat)) :=
  (facetWordsOn kd T s).map (fun fw => sortBy (fun l => l.foldl (fun n x => 8 * n + x) 0) (fw.map (wlocal kd s σ)))

/-- the split of a facet is a function of the facet only: the same pattern for every template,
    every slot and every symmetry of the positions; and every word on a facet is a vertex or the
    midpoint of an edge or facet that exists -/
def patternOk (kd : Kind) : Bool :=
  (tmpls kd).all fun T => (List.range kd.facets.length).all fun s =>
    (facetWordsOn kd T s).all (fun fw => fw.all fun w => w.ok kd && w != .c) &&
    (posSyms kd).all fun σ => (facetPattern kd T s σ).isPerm
      (facetPattern kd ((tmpls kd).getD 0 []) 0 (List.range (kd.facets.getD 0 []).length))

theorem patternOk_all : ∀ kd, patternOk kd = true := by
  intro kd; cases kd <;> decide +kernel

/-- the global vertices of a word on facet `s`, read through the facet: `G p` is the vertex at position `p` -/
theorem slotCol_support {kd : Kind} {c : List Nat} {s : Nat} {σ : List Nat} {G : Nat → Nat}
    (hσ : ∀ i ∈ kd.facets.getD s [], c.getD i 0 = G (σ.getD ((kd.facets.getD s []).idxOf i) 0))
    {w : Src} (hon : w.onFacet kd s = true) :
    slotCol c (w.support kd)
      = ((w.support kd).map fun i => σ.getD ((kd.facets.getD s []).idxOf i) 0).map G := by
  rw [slotCol, List.map_map]
  exact List.map_congr_left fun i hi => hσ i (by simpa using List.all_eq_true.mp hon i hi)

theorem num_eq_of_wlocal {kd : Kind} {E : Env} (hE : EnvOk kd E) {k k' : Nat} (hk : k < E.cells.length)
    (hk' : k' < E.cells.length) {s s' : Nat} {σ σ' : List Nat} {G : Nat → Nat}
    (hσ : ∀ i ∈ kd.facets.getD s [],
      (E.cells.getD k []).getD i 0 = G (σ.getD ((kd.facets.getD s []).idxOf i) 0))
    (hσ' : ∀ i ∈ kd.facets.getD s' [],
      (E.cells.getD k' []).getD i 0 = G (σ'.getD ((kd.facets.getD s' []).idxOf i) 0))
    {w w' : Src} (hw : w.ok kd = true) (hw' : w'.ok kd = true) (hc : w ≠ .c)
    (hon : w.onFacet kd s = true) (hon' : w'.onFacet kd s' = true)
    (h : wlocal kd s σ w = wlocal kd s' σ' w') : E.num k w = E.num k' w' := by
  simp only [wlocal, List.cons.injEq] at h
  refine num_eq_of_support hE hk hk' hw hw' hc h.1 ?_
  rw [slotCol_support hσ hon, slotCol_support hσ' hon']
  exact sortCol_congr ((perm_of_sortCol_eq h.2).map _)

/-- two cells whose facets `s`, `s'` coincide along an admissible correspondence `π` produce the same refined
    facets there, whatever inner diagonals two tetrahedra choose -/
theorem conforming (kd : Kind) (m : MeshData) (k k' : Nat) (hk : k < m.cells.length)
    (hk' : k' < m.cells.length) (s s' : Nat) (hs : s < kd.facets.length) (hs' : s' < kd.facets.length)
    (π : List (Nat × Nat)) (hπ : π ∈ admissible kd s s') (T T' : Template) (hT : T ∈ tmpls kd)
    (hT' : T' ∈ tmpls kd)
    (hmatch : ∀ i ∈ kd.facets.getD s [],
      (m.cells.getD k []).getD i 0 = (m.cells.getD k' []).getD (applyPi π i) 0) :
    (refinedFacetsOn kd (envOf kd m) T k s).Perm (refinedFacetsOn kd (envOf kd m) T' k' s') := by
  have hcells := envOf_cells kd m
  have hid := (facets_ok kd s' hs').1
  obtain ⟨σ, hσ, rfl⟩ := List.mem_map.mp hπ
  have hpat := patternOk_all kd
  simp only [patternOk, List.all_eq_true, List.mem_range, Bool.and_eq_true, List.isPerm_iff,
    bne_iff_ne, ne_eq] at hpat
  obtain ⟨hok, hp⟩ := hpat T hT s hs
  obtain ⟨hok', hp'⟩ := hpat T' hT' s' hs'
  have hperm := (hp σ hσ).trans (hp' _ hid).symm
  simp only [facetPattern] at hperm
  simp only [refinedFacetsOn]
  refine perm_map_of_perm_map _ _ _ _ (fun fw hfw fw' hfw' h => ?_) hperm
  refine sortCol_congr (perm_map_of_perm_map _ _ _ _ (fun w hw w' hw' hl => ?_)
    ((perm_sortBy _ _).symm.trans ((List.Perm.of_eq h).trans (perm_sortBy _ _))))
  refine num_eq_of_wlocal (G := fun p => ((envOf kd m).cells.getD k' []).getD ((kd.facets.getD s' []).getD p 0) 0)
    (envOf_ok kd m) (hcells ▸ hk) (hcells ▸ hk') (fun i hi => ?_) (fun i hi => ?_) (hok fw hfw w hw).1
    (hok' fw' hfw' w' hw').1 (hok fw hfw w hw).2 (facetWordsOn_onFacet kd T s fw hfw w hw)
    (facetWordsOn_onFacet kd T' s' fw' hfw' w' hw') hl
  · rw [hcells, hmatch i hi, applyPi_admissible hs hσ hi]
  · have h := List.idxOf_lt_length_of_mem hi
    rw [getD_eq_getElem (List.range _) 0 (by simpa using h), List.getElem_range, getD_idxOf hi]

/-- for facets with at most three vertices every permutation of the positions is a symmetry -/
theorem perm_positions (kd : Kind) (hkd : kd ≠ .hex) (F F' : List Nat)
    (hm : F.length = (kd.facets.getD 0 []).length) (h : F.Perm F') :
    ∃ σ ∈ posSyms kd, F = σ.map (fun q => F'.getD q 0) := by
  -- `F'` lists its entries by position, so its rearrangement `F` lists them by a rearrangement `σ` of the positions
  obtain ⟨σ, hF, hσ⟩ : Relation.Comp (· = List.map (fun q => F'.getD q 0) ·) List.Perm F (List.range F'.length) := by
    rw [List.eq_map_comp_perm]
    exact h.trans (.of_eq (map_getD_range_id F' 0).symm)
  refine ⟨σ, ?_, hF⟩
  rw [← h.length_eq, hm] at hσ
  -- and the table holds every rearrangement of at most three positions
  have two : (kd.facets.getD 0 []).length = 2 → posSyms kd = [[0, 1], [1, 0]] → σ ∈ posSyms kd := by
    intro h2 hsym
    rw [h2] at hσ
    obtain ⟨x, y, rfl⟩ := List.length_eq_two.mp hσ.length_eq
    exact hsym ▸ (by decide : ∀ x ∈ List.range 2, ∀ y ∈ List.range 2, [x, y].Perm [0, 1] → [x, y] ∈ [[0, 1], [1, 0]])
      x (hσ.subset (by simp)) y (hσ.subset (by simp)) hσ
  cases kd with
  | line => exact List.perm_singleton.mp hσ ▸ by decide
  | tri => exact two rfl rfl
  | quad => exact two rfl rfl
  | tet =>
    obtain ⟨x, y, z, rfl⟩ := List.length_eq_three.mp hσ.length_eq
    exact (by decide : ∀ x ∈ List.range 3, ∀ y ∈ List.range 3, ∀ z ∈ List.range 3,
        [x, y, z].Perm [0, 1, 2] → [x, y, z] ∈ posSyms .tet)
      x (hσ.subset (by simp)) y (hσ.subset (by simp)) z (hσ.subset (by simp)) hσ
  | hex => exact absurd rfl hkd
end Skv.Refine
