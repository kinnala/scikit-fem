import SkfemVerif.Model.Helpers
import Mathlib.LinearAlgebra.CrossProduct
/-
Bridge between the core-Lean vocabulary of the generated helper terms (`vec2`, `vec3`) and
Mathlib's vector notation, and the mathematical definition of the curl used in `Props/C20.lean`.
-/
namespace Skv

/-- how the generated array literals are compared with a Mathlib object: one `apply` per axis -/
theorem vec2_ext {α : Type} {a b : α} {f : Fin 2 → α} (h0 : a = f 0) (h1 : b = f 1) :
    vec2 a b = f := by
  subst h0 h1; funext i; fin_cases i <;> rfl

theorem vec3_ext {α : Type} {a b c : α} {f : Fin 3 → α} (h0 : a = f 0) (h1 : b = f 1)
    (h2 : c = f 2) : vec3 a b c = f := by
  subst h0 h1 h2; funext i; fin_cases i <;> rfl

theorem vec2_eq {α : Type} (a b : α) : vec2 a b = ![a, b] := vec2_ext rfl rfl

theorem vec3_eq {α : Type} (a b c : α) : vec3 a b c = ![a, b, c] := vec3_ext rfl rfl rfl

/-- for the NumPy and the JAX term of a helper, each proved equal to the Mathlib object -/
theorem eq_of_eq_both {α : Type} {a b c : α} (h : a = c ∧ b = c) : a = b := h.1.trans h.2.symm

section
variable {R : Type} [CommRing R]

/-- `∇ × u = Σ_j e_j × ∂_j u` for a vector field with Jacobian `G i j = ∂u_i/∂x_j` -/
def curl3 (G : Matrix (Fin 3) (Fin 3) R) : Fin 3 → R :=
  ∑ j : Fin 3, crossProduct (Pi.single j 1) (fun i => G i j)

/-- a plane field `(u₀, u₁)(x₀, x₁)` as a field in space, `∂/∂x₂ = 0`, `u₂ = 0` -/
def embedPlane (G : Matrix (Fin 2) (Fin 2) R) : Matrix (Fin 3) (Fin 3) R :=
  Matrix.of ![![G 0 0, G 0 1, 0], ![G 1 0, G 1 1, 0], ![0, 0, 0]]

/-- a scalar `φ(x₀, x₁)` as the field `(0, 0, φ)` in space -/
def embedScalar (g : Fin 2 → R) : Matrix (Fin 3) (Fin 3) R :=
  Matrix.of ![![0, 0, 0], ![0, 0, 0], ![g 0, g 1, 0]]

theorem curl3_apply (G : Matrix (Fin 3) (Fin 3) R) :
    curl3 G = ![G 2 1 - G 1 2, G 0 2 - G 2 0, G 1 0 - G 0 1] := by
  unfold curl3
  rw [Fin.sum_univ_three, cross_apply, cross_apply, cross_apply]
  simp
  refine ⟨?_, ?_, ?_⟩ <;> ring

end

end Skv
