import SkfemVerif.Lemmas.PolyCheck
import SkfemVerif.Lemmas.List
import Mathlib.Algebra.MvPolynomial.PDeriv
/-
What the term-list polynomials of Model/Poly.lean mean: `toMv` reads one as a Mathlib `MvPolynomial`, and `eval`,
`pderiv` are `MvPolynomial.eval`, `MvPolynomial.pderiv` of it; `eval` depends on the coefficients `coeff` only
(`eval_eq_sum`), although the same exponent vector may occur in several terms.  `toMv` and `WF` occur in the C09
statements, hence the namespace; the coefficient lemmas are in `Lemmas/PolyCheck.lean`.
-/
namespace Skv.C09

noncomputable def toMv (d : Nat) (p : Poly) : MvPolynomial (Fin d) ℚ :=
  (p.map (fun t => MvPolynomial.monomial
    (Finsupp.equivFunOnFinite.symm (fun i : Fin d => t.2.getD i.val 0)) t.1)).sum

/-- the invariant under which `Poly.mul` and what is built on it are the operations on polynomials (`wf_*`,
    `eval_*` in `Lemmas/Traces.lean`) -/
def WF (d : Nat) (p : Poly) : Prop := ∀ t ∈ p, t.2.length = d

theorem monoEval_nil_left (e : Mono) : Poly.monoEval [] e = 1 := by
  cases e <;> rfl

theorem monoEval_nil_right (x : List ℚ) : Poly.monoEval x [] = 1 := by
  cases x <;> rfl

theorem monoEval_cons (a : ℚ) (xs : List ℚ) (k : Nat) (es : Mono) :
    Poly.monoEval (a :: xs) (k :: es) = a ^ k * Poly.monoEval xs es := rfl

theorem monoEval_finRange (d : Nat) (x : Fin d → ℚ) (e : Mono) :
    Poly.monoEval ((List.finRange d).map x) e = ∏ i : Fin d, x i ^ e.getD i.val 0 := by
  induction d generalizing e with
  | zero => simp [monoEval_nil_left]
  | succ n ih =>
    cases e with
    | nil => simp [monoEval_nil_right]
    | cons k es =>
      rw [List.finRange_succ, List.map_cons, List.map_map, monoEval_cons, ih, Fin.prod_univ_succ]
      simp

theorem monoEval_bounds (x : List ℚ) (hx : ∀ a ∈ x, 0 ≤ a ∧ a ≤ 1) (e : Mono) :
    0 ≤ Poly.monoEval x e ∧ Poly.monoEval x e ≤ 1 := by
  induction x generalizing e with
  | nil => simp [monoEval_nil_left]
  | cons a xs ih =>
    cases e with
    | nil => simp [monoEval_nil_right]
    | cons k es =>
      rw [monoEval_cons]
      have ha := hx a (by simp)
      have hr := ih (fun b hb => hx b (by simp [hb])) es
      exact ⟨mul_nonneg (pow_nonneg ha.1 k) hr.1, mul_le_one₀ (pow_le_one₀ ha.1 ha.2) hr.1 hr.2⟩

theorem monoEval_replicate_zero (x : List ℚ) (n : Nat) :
    Poly.monoEval x (List.replicate n 0) = 1 := by
  induction x generalizing n with
  | nil => exact monoEval_nil_left _
  | cons a xs ih =>
    cases n with
    | zero => exact monoEval_nil_right _
    | succ n => rw [List.replicate_succ, monoEval_cons, ih]; simp

theorem eval_nil (x : List ℚ) : Poly.eval [] x = 0 := rfl

theorem eval_cons (t : ℚ × Mono) (p : Poly) (x : List ℚ) :
    Poly.eval (t :: p) x = t.1 * Poly.monoEval x t.2 + Poly.eval p x := by
  simp [Poly.eval]

theorem eval_append (p q : Poly) (x : List ℚ) :
    Poly.eval (p ++ q) x = Poly.eval p x + Poly.eval q x := by
  simp [Poly.eval]

theorem eval_const_one (dim : Nat) (x : List ℚ) : Poly.eval (Poly.const dim 1) x = 1 := by
  simp [Poly.const, Poly.eval, monoEval_replicate_zero]

/-- repeated exponent vectors are merged by `coeff` -/
theorem eval_eq_sum (p : Poly) (x : List ℚ) (S : Finset Mono) (hS : ∀ t ∈ p, t.2 ∈ S) :
    p.eval x = ∑ e ∈ S, p.coeff e * Poly.monoEval x e := by
  induction p with
  | nil => simp [eval_nil, coeff_nil]
  | cons t p ih =>
    rw [eval_cons, ih (fun t ht => hS t (List.mem_cons_of_mem _ ht))]
    simp only [coeff_cons, add_mul, Finset.sum_add_distrib, ite_mul, zero_mul]
    rw [Finset.sum_ite_eq]
    simp [hS t (by simp)]

theorem eval_sub_eq_sum (p q : Poly) (x : List ℚ) :
    p.eval x - q.eval x
      = ∑ e ∈ (p.exps ++ q.exps).toFinset, (p.coeff e - q.coeff e) * Poly.monoEval x e := by
  rw [eval_eq_sum p x _ fun t ht => List.mem_toFinset.mpr (List.mem_append_left _ (mem_exps_of_mem ht)),
    eval_eq_sum q x _ fun t ht => List.mem_toFinset.mpr (List.mem_append_right _ (mem_exps_of_mem ht)),
    ← Finset.sum_sub_distrib]
  simp only [sub_mul]

theorem eval_congr_coeff (p q : Poly) (h : ∀ e, p.coeff e = q.coeff e) (x : List ℚ) :
    p.eval x = q.eval x := by
  rw [← sub_eq_zero, eval_sub_eq_sum]
  exact Finset.sum_eq_zero fun e _ => by rw [h e, sub_self, zero_mul]

theorem toMv_nil (d : Nat) : toMv d [] = 0 := by simp [toMv]

theorem toMv_cons (d : Nat) (t : ℚ × Mono) (p : Poly) :
    toMv d (t :: p) = MvPolynomial.monomial
      (Finsupp.equivFunOnFinite.symm (fun i : Fin d => t.2.getD i.val 0)) t.1 + toMv d p := by
  simp [toMv]

theorem toMv_append (d : Nat) (p q : Poly) : toMv d (p ++ q) = toMv d p + toMv d q := by
  simp [toMv]

/-- whatever the lengths of the exponent vectors: `getD` pads short ones with 0 where `monoEval` truncates -/
theorem eval_toMv (d : Nat) (p : Poly) (x : Fin d → ℚ) :
    MvPolynomial.eval x (toMv d p) = p.eval ((List.finRange d).map x) := by
  induction p with
  | nil => rw [toMv_nil, map_zero, eval_nil]
  | cons t p ih =>
    rw [toMv_cons, map_add, ih, eval_cons, MvPolynomial.eval_monomial, monoEval_finRange,
      Finsupp.prod_fintype]
    · simp
    · intro i; simp

theorem pderiv_nil (i : Nat) : Poly.pderiv [] i = [] := rfl

theorem pderiv_cons (t : ℚ × Mono) (p : Poly) (i : Nat) :
    Poly.pderiv (t :: p) i =
      (if t.2.getD i 0 = 0 then []
        else [(t.1 * ((t.2.getD i 0 : Nat) : ℚ), t.2.set i (t.2.getD i 0 - 1))]) ++ Poly.pderiv p i := by
  unfold Poly.pderiv
  rw [List.filterMap_cons]
  by_cases h : t.2.getD i 0 = 0
  · simp [-List.getD_eq_getElem?_getD, h]
  · simp [-List.getD_eq_getElem?_getD, h]

theorem exponent_set (d : Nat) (e : Mono) (i : Fin d) (hk : e.getD i.val 0 ≠ 0) :
    (Finsupp.equivFunOnFinite.symm (fun j : Fin d => (e.set i.val (e.getD i.val 0 - 1)).getD j.val 0))
      = (Finsupp.equivFunOnFinite.symm (fun j : Fin d => e.getD j.val 0)) - Finsupp.single i 1 := by
  ext j
  simp only [Finsupp.equivFunOnFinite_symm_apply_apply, Finsupp.coe_tsub, Pi.sub_apply,
    Finsupp.single_apply]
  have hi : i.val < e.length := by
    by_contra hc
    exact hk (by simp [List.getD_eq_getElem?_getD, List.getElem?_eq_none (not_lt.mp hc)])
  by_cases hji : i = j
  · subst hji
    simp [List.getD_eq_getElem?_getD, hi]
  · have : i.val ≠ j.val := fun h => hji (Fin.ext h)
    simp [List.getD_eq_getElem?_getD, this, hji]

theorem toMv_pderiv (d : Nat) (p : Poly) (i : Fin d) :
    toMv d (p.pderiv i.val) = MvPolynomial.pderiv i (toMv d p) := by
  induction p with
  | nil => rw [pderiv_nil, toMv_nil, map_zero]
  | cons t p ih =>
    rw [pderiv_cons, toMv_append, ih, toMv_cons, map_add, MvPolynomial.pderiv_monomial]
    congr 1
    by_cases h : t.2.getD i.val 0 = 0
    · simp [-List.getD_eq_getElem?_getD, h, toMv_nil]
    · rw [if_neg h, toMv_cons, toMv_nil, add_zero]
      simp only [exponent_set d t.2 i h, Finsupp.equivFunOnFinite_symm_apply_apply]

theorem getD_zip_mem {α β : Type} {l₁ : List α} {l₂ : List β} (h : l₁.length = l₂.length) {j : Nat}
    (hj : j < l₁.length) (d₁ : α) (d₂ : β) : (l₁.getD j d₁, l₂.getD j d₂) ∈ l₁.zip l₂ := by
  rw [getD_eq_getElem l₁ d₁ hj, getD_eq_getElem l₂ d₂ (h ▸ hj)]
  exact List.getElem_zip ▸ List.getElem_mem (by simp [← h, hj])

theorem checkGrad_sound (dim : Nat) (vals : List Poly) (grads : List (List Poly)) (tol : ℚ)
    (h : checkGrad dim vals grads tol = true) (j : Nat) (hj : j < vals.length)
    (a : Nat) (ha : a < dim) :
    Poly.close ((vals.getD j []).pderiv a) ((grads.getD j []).getD a []) tol = true := by
  unfold checkGrad at h
  simp only [Bool.and_eq_true, beq_iff_eq, List.all_eq_true] at h
  exact (h.2 _ (getD_zip_mem h.1 hj [] [])).2 a (List.mem_range.mpr ha)

theorem checkDiv_sound (dim : Nat) (vals : List (List Poly)) (divs : List Poly) (tol : ℚ)
    (h : checkDiv dim vals divs tol = true) (j : Nat) (hj : j < vals.length) :
    Poly.close (Poly.sum ((List.range dim).map (fun i => ((vals.getD j []).getD i []).pderiv i)))
      (divs.getD j []) tol = true := by
  unfold checkDiv at h
  simp only [Bool.and_eq_true, beq_iff_eq, List.all_eq_true] at h
  exact (h.2 _ (getD_zip_mem h.1 hj [] [])).2

/-! ### power basis: the coefficient loop is the descending factorial -/

theorem pbasisCoeff_eq_foldl (i dx : Nat) :
    pbasisCoeff i dx = (List.range dx).foldl (fun (c : Int) (l : Nat) => c * ((i : Int) - (l : Int))) 1 := by
  unfold pbasisCoeff
  apply List.foldl_ext
  intro c l hl
  have hl' : l ≤ dx := (List.mem_range.mp hl).le
  rw [Nat.cast_sub hl']
  congr 1
  ring

theorem pbasisCoeff_zero (i : Nat) : pbasisCoeff i 0 = 1 := rfl

theorem pbasisCoeff_succ (i dx : Nat) :
    pbasisCoeff i (dx + 1) = pbasisCoeff i dx * ((i : Int) - (dx : Int)) := by
  rw [pbasisCoeff_eq_foldl, pbasisCoeff_eq_foldl, List.range_succ, List.foldl_append]
  rfl

theorem pbasisCoeff_eq_descFactorial (i dx : Nat) :
    pbasisCoeff i dx = ((i.descFactorial dx : Nat) : Int) := by
  induction dx with
  | zero => simp [pbasisCoeff_zero]
  | succ dx ih =>
    rw [pbasisCoeff_succ, ih, Nat.descFactorial_succ]
    by_cases h : dx ≤ i
    · push_cast [Nat.cast_sub h]; ring
    · have h0 : i.descFactorial dx = 0 := Nat.descFactorial_eq_zero_iff_lt.mpr (not_le.mp h)
      simp [h0]

theorem iterDeriv_one_eq (i n : Nat) :
    iterDeriv n (1, i) = (((i.descFactorial n : Nat) : Int), i - n) := by
  induction n with
  | zero => simp [iterDeriv]
  | succ n ih =>
    simp only [iterDeriv, ih, Nat.descFactorial_succ]
    refine Prod.ext ?_ ?_
    · push_cast; ring
    · simp only; omega

end Skv.C09

namespace Skv

theorem sum_zipWith_add_le : ∀ (a b : List Nat), (List.zipWith (· + ·) a b).sum ≤ a.sum + b.sum
  | [], _ => by simp
  | _ :: _, [] => by simp
  | x :: a, y :: b => by
    have ih := sum_zipWith_add_le a b
    simp only [List.zipWith_cons_cons, List.sum_cons]
    omega

theorem sum_zipWith_add : ∀ (a b : List Nat), a.length = b.length →
    (List.zipWith (· + ·) a b).sum = a.sum + b.sum
  | [], [], _ => by simp
  | x :: a, y :: b, h => by
    have ih := sum_zipWith_add a b (Nat.succ.inj h)
    simp only [List.zipWith_cons_cons, List.sum_cons]
    omega

theorem degLe_iff (p : Poly) (n : Nat) :
    Poly.degLe p n = true ↔ ∀ t ∈ p, t.1 = 0 ∨ t.2.sum ≤ n := by
  unfold Poly.degLe
  simp only [List.all_eq_true, Bool.or_eq_true, beq_iff_eq, decide_eq_true_eq]

/-- no hypothesis on the lengths of the exponent vectors: `Poly.mul` adds them with `zipWith`, which truncates to
    the shorter one, and truncating can only lower the degree -/
theorem degLe_mul (p q : Poly) (n m : Nat) (hp : Poly.degLe p n = true)
    (hq : Poly.degLe q m = true) : Poly.degLe (Poly.mul p q) (n + m) = true := by
  rw [degLe_iff] at hp hq ⊢
  intro u hu
  unfold Poly.mul at hu
  simp only [List.mem_flatMap, List.mem_map] at hu
  obtain ⟨s, hs, t, ht, rfl⟩ := hu
  rcases hp s hs with h1 | h1
  · left; simp [h1]
  rcases hq t ht with h2 | h2
  · left; simp [h2]
  right
  have := sum_zipWith_add_le s.2 t.2
  show (List.zipWith (· + ·) s.2 t.2).sum ≤ n + m
  omega

theorem checkDeg_getD (vals : List Poly) (n : Nat) (h : checkDeg vals n = true) (i : Nat)
    (hi : i < vals.length) : Poly.degLe (vals.getD i []) n = true :=
  List.all_eq_true.mp h _ (getD_mem vals [] hi)

end Skv
