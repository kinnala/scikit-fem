import SkfemVerif.Model.Quadrature
import Mathlib.Algebra.BigOperators.Ring.List
import Mathlib.Data.Nat.Factorial.Basic
import Mathlib.Tactic.Ring
import Mathlib.Tactic.Linarith
import Mathlib.Tactic.Positivity
import Mathlib.Tactic.FieldSimp
/-
The rational reading of a scaled-integer quadrature rule (Model/Quadrature.lean).  The definitions at the top are the
vocabulary of the C08 and C02 statements, hence the namespace.  The hexahedron rule is the prism construction over
the quadrilateral rule.
-/
namespace Skv.C08

def nodeQ (S : Nat) (c : List Int) : List ℚ := c.map (fun m => (m : ℚ) / 2 ^ S)

/-- the monomial `x^e` at a point -/
def monoQ : List ℚ → List Nat → ℚ
  | x :: xs, e :: es => x ^ e * monoQ xs es
  | _, _ => 1

/-- the rule applied to an arbitrary function of the node coordinates -/
def applyFun (r : IRule) (f : List ℚ → ℚ) : ℚ :=
  (r.pts.map (fun p => ((p.2 : ℚ) / 2 ^ r.SW) * f (nodeQ r.S p.1))).sum

abbrev QPoly := List (ℚ × List Nat)

def evalPoly (p : QPoly) (x : List ℚ) : ℚ := (p.map (fun t => t.1 * monoQ x t.2)).sum

def l1 (p : QPoly) : ℚ := (p.map (fun t => |t.1|)).sum

def exactQ (ex : Nat × Nat) : ℚ := (ex.1 : ℚ) / (ex.2 : ℚ)

/-- Dirichlet's formula, term by term -/
def exactPolySimplex (p : QPoly) : ℚ := (p.map (fun t => t.1 * exactQ (exactSimplex t.2))).sum

def exactPolyBox (p : QPoly) : ℚ := (p.map (fun t => t.1 * exactQ (exactBox t.2))).sum

/-! ### one monomial: the checker's integer sum and inequality, read in ℚ -/

/-- the definition elaborates `c` through the `List` monad coercion `List ℤ → List ℚ`; this is the same list -/
theorem nodeQ_eq_map (S : Nat) (c : List Int) :
    nodeQ S c = c.map (fun m : Int => (m : ℚ) / 2 ^ S) := by
  induction c with
  | nil => rfl
  | cons x xs ih => simpa [nodeQ] using ih

theorem nodeQ_nil (S : Nat) : nodeQ S [] = [] := by rw [nodeQ_eq_map]; rfl

theorem nodeQ_cons (S : Nat) (x : Int) (xs : List Int) :
    nodeQ S (x :: xs) = (x : ℚ) / 2 ^ S :: nodeQ S xs := by
  rw [nodeQ_eq_map, nodeQ_eq_map]; rfl

theorem monoQ_nodeQ (S : Nat) : ∀ (c : List Int) (e : List Nat), c.length = e.length →
    monoQ (nodeQ S c) e = (powProd c e : ℚ) / 2 ^ (S * e.sum)
  | [], [], _ => by simp [monoQ, nodeQ_nil, powProd]
  | x :: xs, a :: es, h => by
    have ih := monoQ_nodeQ S xs es (Nat.succ.inj h)
    simp only [nodeQ_cons, monoQ, powProd, List.sum_cons]
    rw [ih, div_pow, ← pow_mul, mul_add, pow_add]
    push_cast
    rw [div_mul_div_comm]

theorem sum_pts_sound (S SW : Nat) (e : List Nat) : ∀ (pts : List (List Int × Int)),
    (∀ p ∈ pts, p.1.length = e.length) →
    (pts.map (fun p => ((p.2 : ℚ) / 2 ^ SW) * monoQ (nodeQ S p.1) e)).sum
      = (((pts.map (fun p => p.2 * powProd p.1 e)).sum : Int) : ℚ) / 2 ^ (SW + S * e.sum)
  | [], _ => by simp
  | p :: pts, h => by
    have ih := sum_pts_sound S SW e pts (fun q hq => h q (List.mem_cons_of_mem _ hq))
    have hp := monoQ_nodeQ S p.1 e (h p List.mem_cons_self)
    simp only [List.map_cons, List.sum_cons]
    rw [ih, hp, pow_add]
    push_cast
    rw [div_mul_div_comm, ← add_div]

theorem abs_sub_le_of_int (A : Int) (num den k tol : Nat) (hden : 0 < den)
    (h : ((A * (den : Int) - (num : Int) * 2 ^ k).natAbs : Int) * 2 ^ tol ≤ (den : Int) * 2 ^ k) :
    |(A : ℚ) / 2 ^ k - (num : ℚ) / (den : ℚ)| ≤ 1 / 2 ^ tol := by
  have hd : (0 : ℚ) < den := by exact_mod_cast hden
  have hk : (0 : ℚ) < 2 ^ k := by positivity
  rw [div_sub_div _ _ hk.ne' hd.ne', abs_div, abs_of_pos (mul_pos hk hd),
    div_le_div_iff₀ (mul_pos hk hd) (by positivity), one_mul]
  rw [Int.natCast_natAbs, mul_comm (num : Int), mul_comm (den : Int) (2 ^ k)] at h
  exact_mod_cast h

theorem sum_weights_cast (SW : Nat) : ∀ (pts : List (List Int × Int)),
    (pts.map (fun p => (p.2 : ℚ) / 2 ^ SW)).sum = (((pts.map (·.2)).sum : Int) : ℚ) / 2 ^ SW
  | [] => by simp
  | p :: pts => by
    simp only [List.map_cons, List.sum_cons, sum_weights_cast SW pts]
    push_cast
    rw [add_div]

theorem weightsOk_sound (r : IRule) (num den tol : Nat) (hden : 0 < den)
    (h : weightsOk r (num, den) tol = true) :
    |(r.pts.map (fun p => (p.2 : ℚ) / 2 ^ r.SW)).sum - (num : ℚ) / (den : ℚ)| ≤ 1 / 2 ^ tol := by
  rw [sum_weights_cast]
  unfold weightsOk at h
  exact abs_sub_le_of_int _ _ _ _ _ hden (of_decide_eq_true h)

/-! ### from monomials to polynomials: a rule is linear in the integrand -/

theorem applyFun_zero (r : IRule) : applyFun r (fun _ => 0) = 0 := by
  unfold applyFun
  generalize r.pts = pts
  induction pts with
  | nil => simp
  | cons p pts ih => simp only [List.map_cons, List.sum_cons, ih]; simp

theorem applyFun_add_smul (r : IRule) (c : ℚ) (f g : List ℚ → ℚ) :
    applyFun r (fun x => c * f x + g x) = c * applyFun r f + applyFun r g := by
  unfold applyFun
  generalize r.pts = pts
  induction pts with
  | nil => simp
  | cons p pts ih => simp only [List.map_cons, List.sum_cons, ih]; ring

theorem applyFun_poly (r : IRule) (p : QPoly) :
    applyFun r (evalPoly p) = (p.map (fun t => t.1 * applyFun r (fun x => monoQ x t.2))).sum := by
  induction p with
  | nil =>
    have : evalPoly [] = fun _ => (0 : ℚ) := by funext x; simp [evalPoly]
    rw [this, applyFun_zero]; simp
  | cons t p ih =>
    have : evalPoly (t :: p) = fun x => t.1 * (fun x => monoQ x t.2) x + evalPoly p x := by
      funext x; simp [evalPoly]
    rw [this, applyFun_add_smul, ih]; simp

theorem lift_terms (A E : List Nat → ℚ) (ε : ℚ) : ∀ (p : QPoly),
    (∀ t ∈ p, |A t.2 - E t.2| ≤ ε) →
    |(p.map (fun t => t.1 * A t.2)).sum - (p.map (fun t => t.1 * E t.2)).sum| ≤ l1 p * ε
  | [], _ => by simp [l1]
  | t :: p, h => by
    have ih := lift_terms A E ε p (fun s hs => h s (List.mem_cons_of_mem _ hs))
    have ht := h t List.mem_cons_self
    simp only [List.map_cons, List.sum_cons, l1] at ih ⊢
    rw [add_sub_add_comm, ← mul_sub, add_mul]
    refine le_trans (abs_add_le _ _) (add_le_add ?_ ih)
    rw [abs_mul]
    exact mul_le_mul_of_nonneg_left ht (abs_nonneg _)

/-! ### the exact integrals `exactSimplex`, `exactBox`, `exactPrism`: positive denominators, values in `[0, 1]` -/

theorem factorial_eq : ∀ n, factorial n = n.factorial
  | 0 => rfl
  | n + 1 => by rw [factorial, factorial_eq n, Nat.factorial_succ]

theorem exactSimplex_den_pos (e : List Nat) : 0 < (exactSimplex e).2 := by
  rw [exactSimplex, factorial_eq]; exact Nat.factorial_pos _

theorem exactBox_den_pos (e : List Nat) : 0 < (exactBox e).2 := by
  rw [exactBox, ← List.prod_eq_foldl]
  exact Nat.pos_of_ne_zero (List.prod_ne_zero (by simp))

theorem exactQ_simplex1 (a : Nat) : exactQ (exactSimplex [a]) = 1 / ((a : ℚ) + 1) := by
  have hp : (0 : ℚ) < a.factorial := by exact_mod_cast a.factorial_pos
  simp only [exactQ, exactSimplex, List.map_cons, List.map_nil, List.foldl_cons, List.foldl_nil,
    List.sum_cons, List.sum_nil, List.length_cons, List.length_nil, Nat.add_zero, Nat.zero_add,
    Nat.one_mul, factorial_eq, Nat.factorial_succ]
  push_cast
  field_simp

theorem exactQ_box1 (a : Nat) : exactQ (exactBox [a]) = 1 / ((a : ℚ) + 1) := by
  simp [exactQ, exactBox]

theorem exactQ_box2 (a b : Nat) :
    exactQ (exactBox [a, b]) = exactQ (exactBox [a]) * exactQ (exactBox [b]) := by
  simp only [exactQ, exactBox, List.map_cons, List.map_nil, List.foldl_cons, List.foldl_nil,
    Nat.one_mul]
  push_cast
  rw [div_mul_div_comm, one_mul]

theorem exactQ_box3 (a b c : Nat) :
    exactQ (exactBox [a, b, c])
      = exactQ (exactBox [a]) * exactQ (exactBox [b]) * exactQ (exactBox [c]) := by
  simp only [exactQ, exactBox, List.map_cons, List.map_nil, List.foldl_cons, List.foldl_nil,
    Nat.one_mul]
  push_cast
  rw [div_mul_div_comm, div_mul_div_comm, one_mul, one_mul]

theorem exactQ_prism (a b c : Nat) :
    exactQ (exactPrism [a, b, c]) = exactQ (exactSimplex [a, b]) * exactQ (exactBox [c]) := by
  have h1 : List.take 2 [a, b, c] = [a, b] := rfl
  have h2 : List.drop 2 [a, b, c] = [c] := rfl
  simp only [exactPrism, h1, h2, exactQ]
  push_cast
  rw [div_mul_div_comm]

theorem abs_exactQ_le_one {ex : Nat × Nat} (h : ex.1 ≤ ex.2) : |exactQ ex| ≤ 1 := by
  rw [exactQ, abs_of_nonneg (by positivity)]
  exact div_le_one_of_le₀ (by exact_mod_cast h) (by positivity)

theorem abs_exactQ_box1_le (a : Nat) : |exactQ (exactBox [a])| ≤ 1 :=
  abs_exactQ_le_one (by simp [exactBox])

theorem abs_exactQ_simplex2_le (a b : Nat) : |exactQ (exactSimplex [a, b])| ≤ 1 := by
  refine abs_exactQ_le_one ?_
  simp only [exactSimplex, List.map_cons, List.map_nil, List.foldl_cons, List.foldl_nil,
    List.sum_cons, List.sum_nil, List.length_cons, List.length_nil, Nat.one_mul, factorial_eq]
  exact (Nat.le_of_dvd (Nat.factorial_pos _)
    (Nat.factorial_mul_factorial_dvd_factorial_add a b)).trans (Nat.factorial_le (by omega))

theorem lookup_some {α : Type} {table : List (Nat × α)} {m : Nat} {r : α}
    (h : (table.find? (fun p => p.1 == m)).map (·.2) = some r) : (m, r) ∈ table := by
  obtain ⟨p, hf, rfl⟩ := Option.map_eq_some_iff.mp h
  have hm := List.find?_some hf
  exact beq_iff_eq.mp hm ▸ List.mem_of_find?_eq_some hf

theorem lookup_none_iff {α : Type} (table : List (Nat × α)) (m : Nat) :
    (table.find? (fun p => p.1 == m)).map (·.2) = none ↔ m ∉ table.map (·.1) := by
  rw [Option.map_eq_none_iff, List.find?_eq_none]
  simp only [List.mem_map, not_exists, not_and, beq_iff_eq]

/-! ### tensor constructions: the sum over a product of two rules factorises -/

theorem powProd_append : ∀ (c1 c2 : List Int) (e1 e2 : List Nat), c1.length = e1.length →
    powProd (c1 ++ c2) (e1 ++ e2) = powProd c1 e1 * powProd c2 e2
  | [], c2, [], e2, _ => (one_mul _).symm
  | x :: c1, c2, a :: e1, e2, h => by
    rw [List.cons_append, List.cons_append, powProd, powProd,
      powProd_append c1 c2 e1 e2 (Nat.succ.inj h), mul_assoc]

theorem sum_flatMap_map_mul {α β γ : Type} (L1 : List α) (L2 : List β) (f : α → Int)
    (g : β → Int) (h : α → β → γ) (F : γ → Int)
    (hF : ∀ a ∈ L1, ∀ b ∈ L2, F (h a b) = f a * g b) :
    ((L1.flatMap (fun a => L2.map (h a))).map F).sum = (L1.map f).sum * (L2.map g).sum := by
  rw [List.flatMap_def, List.map_flatten, List.sum_flatten, List.map_map, List.map_map,
    ← List.sum_map_mul_right]
  refine congrArg List.sum (List.map_congr_left fun a ha => ?_)
  rw [Function.comp_apply, Function.comp_apply, List.map_map, ← List.sum_map_mul_left]
  exact congrArg List.sum (List.map_congr_left fun b hb => hF a ha b hb)

theorem tensorPrism_mono (A B : IRule) (e1 e2 : List Nat)
    (hA : ∀ p ∈ A.pts, p.1.length = e1.length) :
    (tensorPrism A B).applyMono (e1 ++ e2) = A.applyMono e1 * B.applyMono e2 :=
  (sum_flatMap_map_mul B.pts A.pts _ _ _ _ fun pb _ pa ha => by
    show _ * powProd (pa.1 ++ pb.1) (e1 ++ e2) = _
    rw [powProd_append _ _ _ _ (hA pa ha)]; ring).trans (mul_comm _ _)

theorem tensorPrism_dim {A B : IRule} {dA dB : Nat} (hA : ∀ p ∈ A.pts, p.1.length = dA)
    (hB : ∀ p ∈ B.pts, p.1.length = dB) : ∀ p ∈ (tensorPrism A B).pts, p.1.length = dA + dB := by
  intro p hp
  simp only [tensorPrism, List.mem_flatMap, List.mem_map] at hp
  obtain ⟨pb, hb, pa, ha, rfl⟩ := hp
  rw [List.length_append, hA pa ha, hB pb hb]

theorem tensor2_dim {r : IRule} (hdim : ∀ p ∈ r.pts, p.1.length = 1) :
    ∀ p ∈ (tensor2 r).pts, p.1.length = 2 := by
  intro p hp
  simp only [tensor2, List.mem_flatMap, List.mem_map] at hp
  obtain ⟨pj, hj, pi, hi, rfl⟩ := hp
  rw [List.length_append, hdim pj hj, hdim pi hi]

theorem tensor3_eq_prism (r : IRule) : tensor3 r = tensorPrism (tensor2 r) r := by
  simp only [tensor3, tensorPrism, tensor2, List.map_flatMap, List.map_map, Function.comp_def,
    mul_comm]

/-! ### the error of a product of approximations of numbers in `[-1, 1]` -/

theorem abs_mul_sub_le {x y ex ey δ1 δ2 : ℚ} (hx : |x - ex| ≤ δ1) (hy : |y - ey| ≤ δ2)
    (hex : |ex| ≤ 1) (hey : |ey| ≤ 1) : |x * y - ex * ey| ≤ δ1 * δ2 + δ1 + δ2 := by
  have e1 : x * y - ex * ey = (x - ex) * (y - ey) + (x - ex) * ey + ex * (y - ey) := by ring
  have h1 : |(x - ex) * (y - ey)| ≤ δ1 * δ2 := by
    rw [abs_mul]; exact mul_le_mul hx hy (abs_nonneg _) (le_trans (abs_nonneg _) hx)
  have h2 : |(x - ex) * ey| ≤ δ1 := by
    rw [abs_mul]; exact (mul_le_of_le_one_right (abs_nonneg _) hey).trans hx
  have h3 : |ex * (y - ey)| ≤ δ2 := by
    rw [abs_mul]; exact (mul_le_of_le_one_left (abs_nonneg _) hex).trans hy
  rw [e1]
  exact (abs_add_three _ _ _).trans (add_le_add (add_le_add h1 h2) h3)

theorem scaled_abs_le {x y ε D : ℚ} (hD : 0 ≤ D) (h : |x - y| ≤ ε) :
    |D * x - D * y| ≤ D * ε := by
  rw [← mul_sub, abs_mul, abs_of_nonneg hD]
  exact mul_le_mul_of_nonneg_left h hD

theorem eps_bounds (tol : Nat) : (0 : ℚ) ≤ 1 / 2 ^ tol ∧ (1 : ℚ) / 2 ^ tol ≤ 1 := by
  have h : (0 : ℚ) < 2 ^ tol := by positivity
  refine ⟨by positivity, ?_⟩
  rw [div_le_one h]
  exact one_le_pow₀ (by norm_num)

/-- the 3 of `C08_quad_exact` and `C08_prism_exact`: `(1 + ε)² − 1 = ε² + 2ε ≤ 3ε` for `ε ≤ 1` -/
theorem prod2_le {x y ex ey ε : ℚ} (h0 : 0 ≤ ε) (h1 : ε ≤ 1) (hx : |x - ex| ≤ ε)
    (hy : |y - ey| ≤ ε) (hex : |ex| ≤ 1) (hey : |ey| ≤ 1) : |x * y - ex * ey| ≤ 3 * ε := by
  have h := abs_mul_sub_le hx hy hex hey
  have h2 : ε * ε ≤ ε := mul_le_of_le_one_left h0 h1
  linarith

/-- the 7 of `C08_hex_exact`: `(1 + 3ε)(1 + ε) − 1 = 3ε² + 4ε ≤ 7ε` for `ε ≤ 1` -/
theorem prod3_le {x y z ex ey ez ε : ℚ} (h0 : 0 ≤ ε) (h1 : ε ≤ 1) (hx : |x - ex| ≤ ε)
    (hy : |y - ey| ≤ ε) (hz : |z - ez| ≤ ε) (hex : |ex| ≤ 1) (hey : |ey| ≤ 1) (hez : |ez| ≤ 1) :
    |x * y * z - ex * ey * ez| ≤ 7 * ε := by
  have hexy : |ex * ey| ≤ 1 := by
    rw [abs_mul]; exact mul_le_one₀ hex (abs_nonneg _) hey
  have h := abs_mul_sub_le (prod2_le h0 h1 hx hy hex hey) hz hexy hez
  have h2 : 3 * ε * ε ≤ 3 * ε := mul_le_of_le_one_right (by linarith) h1
  linarith

theorem insideBox_iff (r : IRule) :
    insideBox r = true ↔ ∀ p ∈ r.pts, ∀ x ∈ p.1, 0 ≤ x ∧ x ≤ 2 ^ r.S := by
  simp only [insideBox, List.all_eq_true, Bool.and_eq_true, decide_eq_true_eq]

end Skv.C08
