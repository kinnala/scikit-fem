import SkfemVerif.Model.Dofs
import SkfemVerif.Lemmas.List
/-
Lemmas about Model/Dofs.lean: the numbering `dofNumber`, the tables, the per-cell rows, the order of
the four blocks (C04; C07 and the block lemmas build on them).  Core Lean only.
-/
namespace Skv

/-- the `order='F'` numbering is decoded by `%` and `/`: row `(x - off) % count`, entity
    `(x - off) / count`; injectivity is read off -/
theorem dofNumber_sub_mod {count off a e : Nat} (ha : a < count) :
    (dofNumber count off a e - off) % count = a := by
  unfold dofNumber
  rw [Nat.add_assoc, Nat.add_sub_cancel_left, Nat.add_mul_mod_self_left, Nat.mod_eq_of_lt ha]

theorem dofNumber_sub_div {count off a e : Nat} (ha : a < count) :
    (dofNumber count off a e - off) / count = e := by
  unfold dofNumber
  rw [Nat.add_assoc, Nat.add_sub_cancel_left, Nat.add_mul_div_left _ _ (Nat.zero_lt_of_lt ha),
    Nat.div_eq_of_lt ha, Nat.zero_add]

theorem dofNumber_inj (count off a e a' e' : Nat) (ha : a < count) (ha' : a' < count)
    (h : dofNumber count off a e = dofNumber count off a' e') : a = a' ∧ e = e' :=
  ⟨(dofNumber_sub_mod ha).symm.trans ((congrArg (fun x => (x - off) % count) h).trans
      (dofNumber_sub_mod ha')),
   (dofNumber_sub_div ha).symm.trans ((congrArg (fun x => (x - off) / count) h).trans
      (dofNumber_sub_div ha'))⟩

theorem dofNumber_ge (count off a e : Nat) : off ≤ dofNumber count off a e :=
  Nat.le_trans (Nat.le_add_right _ _) (Nat.le_add_right _ _)

theorem dofNumber_lt (count n off a e : Nat) (ha : a < count) (he : e < n) :
    dofNumber count off a e < off + count * n := by
  unfold dofNumber
  have := Nat.mul_le_mul_left count (Nat.succ_le_of_lt he)
  rw [Nat.mul_succ] at this
  omega

theorem dofNumber_surj (count n off x : Nat) (h1 : off ≤ x) (h2 : x < off + count * n) :
    ∃ a e, a < count ∧ e < n ∧ dofNumber count off a e = x := by
  have h3 : x - off < count * n := Nat.sub_lt_left_of_lt_add h1 h2
  refine ⟨(x - off) % count, (x - off) / count, Nat.mod_lt _ (Nat.pos_of_lt_mul_right h3),
    Nat.div_lt_of_lt_mul h3, ?_⟩
  rw [dofNumber, Nat.add_assoc, Nat.mod_add_div, Nat.add_sub_cancel' h1]

theorem length_dofTable (count n off : Nat) : (dofTable count n off).length = count := by
  simp [dofTable]

theorem dofTable_getD_row (count n off a : Nat) (ha : a < count) :
    (dofTable count n off).getD a [] = (List.range n).map (fun e => dofNumber count off a e) :=
  getD_map_range _ [] ha

theorem dofTable_getD (count n off a e : Nat) (ha : a < count) (he : e < n) :
    ((dofTable count n off).getD a []).getD e 0 = dofNumber count off a e := by
  rw [dofTable_getD_row count n off a ha, getD_map_range _ 0 he]

theorem mem_dofTable_flatten {count n off x : Nat} :
    x ∈ (dofTable count n off).flatten ↔
      ∃ a e, a < count ∧ e < n ∧ dofNumber count off a e = x := by
  simp only [dofTable, ← List.flatMap_def, List.mem_flatMap, List.mem_map, List.mem_range,
    exists_and_left]

theorem gatherRows_length (count off : Nat) (conn : List (List Nat)) :
    (gatherRows count off conn).length = conn.length * count := by
  rw [gatherRows, length_flatMap_map, List.length_range]

theorem gatherRows_getElem? (count off : Nat) (conn : List (List Nat)) (itr a : Nat)
    (ha : a < count) :
    (gatherRows count off conn)[itr * count + a]?
      = conn[itr]?.map (fun row => row.map (fun e => dofNumber count off a e)) := by
  have := getElem?_flatMap_map conn (List.range count)
    (fun row a => row.map (fun e => dofNumber count off a e)) itr a (by rwa [List.length_range])
  simp only [List.length_range, List.getElem_range] at this
  exact this

theorem gatherRows_getD (count off : Nat) (conn : List (List Nat)) (itr a k : Nat)
    (hitr : itr < conn.length) (ha : a < count) (hk : k < (conn.getD itr []).length) :
    ((gatherRows count off conn).getD (itr * count + a) []).getD k 0
      = dofNumber count off a ((conn.getD itr []).getD k 0) := by
  rw [getD_eq_getElem conn [] hitr] at hk ⊢
  rw [List.getD_eq_getElem?_getD (l := gatherRows count off conn),
    gatherRows_getElem? count off conn itr a ha, List.getElem?_eq_getElem hitr]
  exact getD_map_of_lt _ _ k 0 0 hk

theorem gatherRows_zero (off : Nat) (conn : List (List Nat)) : gatherRows 0 off conn = [] := by
  simp [gatherRows]

theorem mem_gatherRows {count off : Nat} {conn : List (List Nat)} {R : List Nat} :
    R ∈ gatherRows count off conn ↔
      ∃ row ∈ conn, ∃ a, a < count ∧ R = row.map (fun e => dofNumber count off a e) := by
  simp only [gatherRows, List.mem_flatMap, List.mem_map, List.mem_range, eq_comm]

theorem mem_gatherRows_flatten {count off : Nat} {conn : List (List Nat)} {x : Nat} :
    x ∈ (gatherRows count off conn).flatten ↔
      ∃ row ∈ conn, ∃ a, a < count ∧ ∃ e ∈ row, dofNumber count off a e = x := by
  simp only [gatherRows, ← List.flatMap_id, List.flatMap_assoc, List.flatMap_map, List.mem_flatMap,
    List.mem_map, List.mem_range, id]

theorem gatherRows_bounded {count off n : Nat} {conn : List (List Nat)}
    (hc : ∀ row ∈ conn, ∀ v ∈ row, v < n) {x : Nat}
    (hx : x ∈ (gatherRows count off conn).flatten) : off ≤ x ∧ x < off + count * n := by
  rw [mem_gatherRows_flatten] at hx
  obtain ⟨row, hrow, a, ha, e, he, rfl⟩ := hx
  exact ⟨dofNumber_ge _ _ _ _, dofNumber_lt _ _ _ _ _ ha (hc row hrow e he)⟩

theorem gatherRows_covers {count off n : Nat} {conn : List (List Nat)}
    (hc : ∀ v < n, ∃ row ∈ conn, v ∈ row) {x : Nat}
    (h1 : off ≤ x) (h2 : x < off + count * n) : x ∈ (gatherRows count off conn).flatten := by
  obtain ⟨a, e, ha, he, rfl⟩ := dofNumber_surj count n off x h1 h2
  obtain ⟨row, hrow, hmem⟩ := hc e he
  exact mem_gatherRows_flatten.mpr ⟨row, hrow, a, ha, e, hmem, rfl⟩

/-! ### the four blocks lie one after the other: nodal, edge, facet, interior -/

theorem offFacet_of_useEdges {c : DofCounts} {tp : Topo} (h : useEdges c tp = true) :
    offFacet c tp = offEdge c tp + c.edge * tp.nedges := by
  simp only [offFacet, h, if_true]

theorem offInterior_of_pos {c : DofCounts} {tp : Topo} (h : 0 < c.facet) :
    offInterior c tp = offFacet c tp + c.facet * tp.nfacets := by
  simp only [offInterior, useFacets, decide_eq_true h, if_true]

theorem offEdge_le_offFacet (c : DofCounts) (tp : Topo) : offEdge c tp ≤ offFacet c tp :=
  Nat.le_add_right _ _

theorem offFacet_le_offInterior (c : DofCounts) (tp : Topo) : offFacet c tp ≤ offInterior c tp :=
  Nat.le_add_right _ _

theorem offInterior_le_dofsTotal (c : DofCounts) (tp : Topo) : offInterior c tp ≤ dofsTotal c tp :=
  Nat.le_add_right _ _

theorem nodal_lt {c : DofCounts} {tp : Topo} {a v : Nat} (ha : a < c.nodal) (hv : v < tp.nverts) :
    dofNumber c.nodal 0 a v < offEdge c tp := by
  have := dofNumber_lt c.nodal tp.nverts 0 a v ha hv
  rwa [Nat.zero_add] at this

theorem edge_lt {c : DofCounts} {tp : Topo} {b e : Nat} (hu : useEdges c tp = true)
    (hb : b < c.edge) (he : e < tp.nedges) :
    dofNumber c.edge (offEdge c tp) b e < offFacet c tp :=
  offFacet_of_useEdges hu ▸ dofNumber_lt c.edge tp.nedges _ b e hb he

theorem facet_lt {c : DofCounts} {tp : Topo} {d f : Nat} (hd : d < c.facet) (hf : f < tp.nfacets) :
    dofNumber c.facet (offFacet c tp) d f < offInterior c tp :=
  offInterior_of_pos (Nat.zero_lt_of_lt hd) ▸ dofNumber_lt c.facet tp.nfacets _ d f hd hf

theorem interior_lt {c : DofCounts} {tp : Topo} {g k : Nat} (hg : g < c.interior) (hk : k < tp.nt) :
    dofNumber c.interior (offInterior c tp) g k < dofsTotal c tp :=
  dofNumber_lt c.interior tp.nt _ g k hg hk

theorem nodal_lt_edge {c : DofCounts} {tp : Topo} {a v : Nat} (ha : a < c.nodal)
    (hv : v < tp.nverts) (b e : Nat) :
    dofNumber c.nodal 0 a v < dofNumber c.edge (offEdge c tp) b e :=
  Nat.lt_of_lt_of_le (nodal_lt ha hv) (dofNumber_ge _ _ _ _)

theorem nodal_lt_facet {c : DofCounts} {tp : Topo} {a v : Nat} (ha : a < c.nodal)
    (hv : v < tp.nverts) (d f : Nat) :
    dofNumber c.nodal 0 a v < dofNumber c.facet (offFacet c tp) d f :=
  Nat.lt_of_lt_of_le (nodal_lt ha hv)
    (Nat.le_trans (offEdge_le_offFacet c tp) (dofNumber_ge _ _ _ _))

theorem edge_lt_facet {c : DofCounts} {tp : Topo} {b e : Nat} (hu : useEdges c tp = true)
    (hb : b < c.edge) (he : e < tp.nedges) (d f : Nat) :
    dofNumber c.edge (offEdge c tp) b e < dofNumber c.facet (offFacet c tp) d f :=
  Nat.lt_of_lt_of_le (edge_lt hu hb he) (dofNumber_ge _ _ _ _)

theorem facet_lt_interior {c : DofCounts} {tp : Topo} {d f : Nat} (hd : d < c.facet)
    (hf : f < tp.nfacets) (g k : Nat) :
    dofNumber c.facet (offFacet c tp) d f < dofNumber c.interior (offInterior c tp) g k :=
  Nat.lt_of_lt_of_le (facet_lt hd hf) (dofNumber_ge _ _ _ _)

/-! `element_dofs` block by block: a block is there exactly when `Dofs.__init__` stacks it -/

theorem mem_elementDofs {c : DofCounts} {tp : Topo} {R : List Nat} :
    R ∈ elementDofs c tp ↔ R ∈ gatherRows c.nodal 0 tp.t
      ∨ (useEdges c tp = true ∧ R ∈ gatherRows c.edge (offEdge c tp) tp.t2e)
      ∨ ((tp.dim ≥ 2 ∧ useFacets c = true) ∧ R ∈ gatherRows c.facet (offFacet c tp) tp.t2f)
      ∨ R ∈ interiorDofs c tp := by
  simp only [elementDofs, List.mem_append, List.mem_ite_nil_right, Bool.and_eq_true,
    decide_eq_true_eq, or_assoc]

theorem exists_mem_elementDofs {c : DofCounts} {tp : Topo} {P : List Nat → Prop} :
    (∃ R ∈ elementDofs c tp, P R) ↔ (∃ R ∈ gatherRows c.nodal 0 tp.t, P R)
      ∨ (useEdges c tp = true ∧ ∃ R ∈ gatherRows c.edge (offEdge c tp) tp.t2e, P R)
      ∨ ((tp.dim ≥ 2 ∧ useFacets c = true) ∧ ∃ R ∈ gatherRows c.facet (offFacet c tp) tp.t2f, P R)
      ∨ ∃ R ∈ interiorDofs c tp, P R := by
  simp only [mem_elementDofs, or_and_right, exists_or, and_assoc, exists_and_left]

theorem mem_elementDofs_flatten {c : DofCounts} {tp : Topo} {x : Nat} :
    x ∈ (elementDofs c tp).flatten ↔ x ∈ (gatherRows c.nodal 0 tp.t).flatten
      ∨ (useEdges c tp = true ∧ x ∈ (gatherRows c.edge (offEdge c tp) tp.t2e).flatten)
      ∨ ((tp.dim ≥ 2 ∧ useFacets c = true)
          ∧ x ∈ (gatherRows c.facet (offFacet c tp) tp.t2f).flatten)
      ∨ x ∈ (interiorDofs c tp).flatten := by
  simp only [List.mem_flatten, exists_mem_elementDofs]

end Skv
