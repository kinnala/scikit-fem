import SkfemVerif.Model.Blocks
import SkfemVerif.Lemmas.Dofs
import SkfemVerif.Lemmas.Assembly
import Mathlib.Tactic.Ring
/-
Lemmas for C19 (vector / composite / block structures), and the vocabulary of its statements that is not part of
the model: `offOf`, `connOf`, `nentOf` (offset, connectivity and number of entities of a kind), `WellFormed`,
`Compatible`, `vecRows`.  Three ideas.  A range cut into blocks by a list of sizes (Lemmas/List.lean): component
rows inside a wrapper's table, the four kinds of DOF numbers, the levels of `_deduce_bfun` and the stacked bases are
instances.  A decoding of local functions into (component, function) reindexes a sum as soon as it has an inverse
(`sum_reindex_of_inverse`).  For a `WellFormed` element the tables of `Model/Dofs.lean` are read kind by kind
(`offOf`, `connOf`, `nentOf`, `DofCounts.get`), with no `if` left.
-/
namespace Skv.Blocks

theorem range4_flatMap {β : Type} (F : Nat → List β) :
    (List.range 4).flatMap F = F 0 ++ F 1 ++ F 2 ++ F 3 := by
  simp [List.range_succ]

section Reindex
variable {M : Type} [AddCommMonoid M]

theorem sum_reindex_of_inverse (NbW Kc : Nat) (Nb : Nat → Nat) (dec : Nat → Nat × Nat)
    (enc : Nat → Nat → Nat)
    (h1 : ∀ j < NbW, (dec j).1 < Kc ∧ (dec j).2 < Nb (dec j).1 ∧ enc (dec j).1 (dec j).2 = j)
    (h2 : ∀ n < Kc, ∀ p < Nb n, enc n p < NbW ∧ dec (enc n p) = (n, p)) (G : Nat → Nat → M) :
    ∑ j ∈ Finset.range NbW, G (dec j).1 (dec j).2
      = ∑ n ∈ Finset.range Kc, ∑ p ∈ Finset.range (Nb n), G n p := by
  rw [Finset.sum_sigma']
  refine Finset.sum_nbij' (fun j => ⟨(dec j).1, (dec j).2⟩) (fun x => enc x.1 x.2) ?_ ?_ ?_ ?_ ?_
  · intro j hj
    have := h1 j (Finset.mem_range.1 hj)
    simp [this.1, this.2.1]
  · intro x hx
    simp only [Finset.mem_sigma, Finset.mem_range] at hx
    exact Finset.mem_range.2 (h2 x.1 hx.1 x.2 hx.2).1
  · intro j hj
    exact (h1 j (Finset.mem_range.1 hj)).2.2
  · intro x hx
    simp only [Finset.mem_sigma, Finset.mem_range] at hx
    rw [(h2 x.1 hx.1 x.2 hx.2).2]
  · intro j _; rfl

/-- the inverse of position ↦ (label, rank among the earlier equal labels) is `List.idxOfNth` -/
theorem sum_rank_reindex (L : List Nat) (K : Nat) (hL : ∀ x ∈ L, x < K) (G : Nat → Nat → M) :
    ∑ i ∈ Finset.range L.length, G (L.getD i 0) (rankAt L i)
      = ∑ n ∈ Finset.range K, ∑ p ∈ Finset.range (L.count n), G n p := by
  refine sum_reindex_of_inverse _ _ _ (fun i => (L.getD i 0, rankAt L i)) (fun n p => L.idxOfNth n p)
    ?_ ?_ G
  · intro i hi
    have e : L.getD i 0 = L[i] := getD_eq_getElem L 0 hi
    simp only [rankAt, e, ← List.countBefore_eq_count_take]
    exact ⟨hL _ (List.getElem_mem hi), List.countBefore_lt_count_getElem,
      List.idxOfNth_countBefore_getElem⟩
  · intro n _ p hp
    have hlt := List.idxOfNth_lt_length_of_lt_count hp
    have e : L.getD (L.idxOfNth n p) 0 = n := by
      simp [List.getD_eq_getElem?_getD, hlt, List.getElem_idxOfNth_eq]
    refine ⟨hlt, ?_⟩
    simp only [rankAt, e, ← List.countBefore_eq_count_take, List.countBefore_idxOfNth_of_lt_count hp]

end Reindex

theorem stackDecode_offset (nbs : List Nat) (n p : Nat) (hn : n < nbs.length) (hp : p < nbs[n]) :
    stackDecode nbs (stackOffset nbs n + p) = (n, p) := by
  unfold stackOffset
  induction nbs generalizing n with
  | nil => simp at hn
  | cons nb rest ih =>
    cases n with
    | zero => simpa [stackDecode] using hp
    | succ n =>
      have := ih n (by simpa using hn) (by simpa using hp)
      simp [stackDecode, Nat.add_assoc, this]

def offOf (c : DofCounts) (tp : Topo) : Nat → Nat
  | 0 => 0
  | 1 => offEdge c tp
  | 2 => offFacet c tp
  | _ => offInterior c tp

/-- every cell is its own "interior entity" -/
def connOf (tp : Topo) : Nat → List (List Nat)
  | 0 => tp.t
  | 1 => tp.t2e
  | 2 => tp.t2f
  | _ => [List.range tp.nt]

def nentOf (tp : Topo) : Nat → Nat
  | 0 => tp.nverts
  | 1 => tp.nedges
  | 2 => tp.nfacets
  | _ => tp.nt

/-- the element's DOF kinds fit the dimension: edge DOFs only in 3-D, facet DOFs only from 2-D -/
structure WellFormed (c : DofCounts) (tp : Topo) : Prop where
  edge3 : c.edge > 0 → tp.dim = 3
  facet2 : c.facet > 0 → tp.dim ≥ 2

/-- the connectivity tables have one row per entity of the reference cell -/
structure Compatible (tp : Topo) (r : RefCounts) : Prop where
  nodes : tp.t.length = r.nnodes
  edges : tp.t2e.length = r.nedges
  facets : tp.t2f.length = r.nfacets

theorem connOf_length (tp : Topo) (r : RefCounts) (h : Compatible tp r) (t : Nat) :
    (connOf tp t).length = r.get t := by
  match t with
  | 0 => exact h.nodes
  | 1 => exact h.edges
  | 2 => exact h.facets
  | _ + 3 => rfl

theorem useEdges_eq {c : DofCounts} {tp : Topo} (hw : WellFormed c tp) :
    useEdges c tp = decide (c.edge > 0) := by
  unfold useEdges
  by_cases h : c.edge > 0
  · simp [h, hw.edge3 h]
  · simp [h]

-- not `:= rfl`: `simp` would then rewrite by `dsimp` and keep the `Decidable` instance of the `if`
theorem useFacets_eq (c : DofCounts) : useFacets c = decide (c.facet > 0) := by
  unfold useFacets; rfl

theorem ite_pos_mul (n x : Nat) : (if decide (n > 0) = true then n * x else 0) = n * x := by
  cases n <;> simp

theorem ite_pos_gatherRows (n off : Nat) (conn : List (List Nat)) :
    (if decide (n > 0) = true then gatherRows n off conn else []) = gatherRows n off conn := by
  cases n <;> simp [gatherRows]

theorem ite_pos_dofTable (n N off : Nat) :
    (if decide (n > 0) = true then dofTable n N off else []) = dofTable n N off := by
  cases n <;> simp [dofTable]

theorem offOf_succ (c : DofCounts) (tp : Topo) (hw : WellFormed c tp) (t : Nat) (ht : t < 3) :
    offOf c tp (t + 1) = offOf c tp t + c.get t * nentOf tp t := by
  match t, ht with
  | 0, _ => simp [offOf, DofCounts.get, nentOf, offEdge]
  | 1, _ => simp only [offOf, offFacet, useEdges_eq hw, ite_pos_mul, DofCounts.get, nentOf]
  | 2, _ => simp only [offOf, offInterior, useFacets_eq, ite_pos_mul, DofCounts.get, nentOf]

theorem dofsTotal_eq (c : DofCounts) (tp : Topo) :
    dofsTotal c tp = offOf c tp 3 + c.get 3 * nentOf tp 3 := rfl

theorem offOf_eq_sum {c : DofCounts} {tp : Topo} (hw : WellFormed c tp) (t : Nat) (ht : t < 4) :
    offOf c tp t = ((List.range t).map (fun s => c.get s * nentOf tp s)).sum := by
  induction t with
  | zero => rfl
  | succ t ih => rw [offOf_succ c tp hw t (by omega), ih (by omega), List.range_succ]; simp

/-- sizes of the four blocks (one per kind) of the DOF numbers of a well-formed element -/
def kindSizes (c : DofCounts) (tp : Topo) : List Nat :=
  (List.range 4).map (fun s => c.get s * nentOf tp s)

theorem length_kindSizes (c : DofCounts) (tp : Topo) : (kindSizes c tp).length = 4 := by
  rw [kindSizes, List.length_map, List.length_range]

theorem kindSizes_getElem (c : DofCounts) (tp : Topo) (t : Nat) (ht : t < (kindSizes c tp).length) :
    (kindSizes c tp)[t] = c.get t * nentOf tp t := by
  simp only [kindSizes, List.getElem_map, List.getElem_range]

theorem offOf_eq {c : DofCounts} {tp : Topo} (hw : WellFormed c tp) (t : Nat) (ht : t < 4) :
    offOf c tp t = ((kindSizes c tp).take t).sum := by
  rw [offOf_eq_sum hw t ht, kindSizes, ← List.map_take, List.take_range, Nat.min_eq_left (Nat.le_of_lt ht)]

theorem dofsTotal_eq_sum {c : DofCounts} {tp : Topo} (hw : WellFormed c tp) :
    dofsTotal c tp = (kindSizes c tp).sum := by
  rw [dofsTotal_eq, offOf_eq hw 3 (by omega)]
  simp [kindSizes, List.range_succ, Nat.add_assoc]

theorem dof_decompose (c : DofCounts) (tp : Topo) (hw : WellFormed c tp) (d : Nat)
    (hd : d < dofsTotal c tp) :
    ∃ t < 4, ∃ a < c.get t, ∃ e < nentOf tp t, d = dofNumber (c.get t) (offOf c tp t) a e := by
  rw [dofsTotal_eq_sum hw] at hd
  obtain ⟨t, ht, x, hx, rfl⟩ := exists_block_of_lt_sum _ hd
  have ht4 : t < 4 := length_kindSizes c tp ▸ ht
  rw [kindSizes_getElem] at hx
  rw [← offOf_eq hw t ht4]
  obtain ⟨a, e, ha, he, h⟩ := dofNumber_surj (c.get t) (nentOf tp t) (offOf c tp t) _
    (Nat.le_add_right _ x) (by omega)
  exact ⟨t, ht4, a, ha, e, he, h.symm⟩

theorem dof_kind_unique (c : DofCounts) (tp : Topo) (hw : WellFormed c tp) {t t' a a' e e' : Nat}
    (ht : t < 4) (ht' : t' < 4) (ha : a < c.get t) (he : e < nentOf tp t) (ha' : a' < c.get t')
    (he' : e' < nentOf tp t')
    (h : dofNumber (c.get t) (offOf c tp t) a e = dofNumber (c.get t') (offOf c tp t') a' e') :
    t = t' := by
  -- a number of kind `t` is the start of block `t` of the range cut by `kindSizes` plus a place inside it
  have lt : ∀ {t a e}, t < 4 → a < c.get t → e < nentOf tp t → ∃ ht : t < (kindSizes c tp).length,
      a + c.get t * e < (kindSizes c tp)[t] := fun ht ha he =>
    ⟨(length_kindSizes c tp).symm ▸ ht, by
      simpa [kindSizes_getElem, dofNumber] using dofNumber_lt _ _ 0 _ _ ha he⟩
  rw [dofNumber, dofNumber, offOf_eq hw t ht, offOf_eq hw t' ht', Nat.add_assoc, Nat.add_assoc] at h
  exact (block_unique _ (lt ht ha he).1 (lt ht' ha' he').1 (lt ht ha he).2 (lt ht' ha' he').2 h).1

theorem dofTable_eq_gatherRows (count n off : Nat) :
    dofTable count n off = gatherRows count off [List.range n] := by
  simp [dofTable, gatherRows]

theorem elementDofs_blocks (c : DofCounts) (tp : Topo) (h : WellFormed c tp) :
    elementDofs c tp
      = (List.range 4).flatMap (fun t => gatherRows (c.get t) (offOf c tp t) (connOf tp t)) := by
  have h2 : (decide (tp.dim ≥ 2) && useFacets c) = decide (c.facet > 0) := by
    unfold useFacets
    by_cases h0 : c.facet > 0
    · simp [h0, h.facet2 h0]
    · simp [h0]
  unfold elementDofs
  rw [range4_flatMap, useEdges_eq h, h2, ite_pos_gatherRows, ite_pos_gatherRows, interiorDofs,
    dofTable_eq_gatherRows]
  rfl

theorem elementDofs_prefix_sizes (c : DofCounts) (tp : Topo) (r : RefCounts)
    (hc : Compatible tp r) (t : Nat) :
    ((List.range t).map fun s => (gatherRows (c.get s) (offOf c tp s) (connOf tp s)).length).sum
      = rowBase c r t :=
  congrArg List.sum (List.map_congr_left fun s _ => by
    rw [gatherRows_length, connOf_length tp r hc, Nat.mul_comm])

theorem elementDofs_row (c : DofCounts) (tp : Topo) (r : RefCounts) (hw : WellFormed c tp)
    (hc : Compatible tp r) (t itr a : Nat) (ht : t < 4) (hitr : itr < r.get t) (ha : a < c.get t) :
    (elementDofs c tp)[rowBase c r t + (itr * c.get t + a)]?
      = some (((connOf tp t).getD itr []).map (dofNumber (c.get t) (offOf c tp t) a)) := by
  have hitr' : itr < (connOf tp t).length := by rw [connOf_length tp r hc]; exact hitr
  rw [elementDofs_blocks c tp hw, ← elementDofs_prefix_sizes c tp r hc t,
    getElem?_flatMap_range_add 4 (fun s => gatherRows (c.get s) (offOf c tp s) (connOf tp s)) t _ ht
      (by rw [gatherRows_length]; exact mul_add_lt_mul ha hitr'),
    gatherRows_getElem? _ _ _ itr a ha, List.getElem?_eq_getElem hitr', getD_eq_getElem _ _ hitr']
  rfl

/-- the rows an `ElementVector` makes of one row of the scalar element's table -/
def vecRows (dim : Nat) (row : List Nat) : List (List Nat) :=
  (List.range dim).map (fun n => row.map (fun d => dim * d + n))

theorem gatherRows_vec (dim count off : Nat) (conn : List (List Nat)) :
    gatherRows (count * dim) (off * dim) conn = (gatherRows count off conn).flatMap (vecRows dim) := by
  unfold gatherRows
  rw [List.flatMap_assoc]
  congr 1
  funext row
  rw [range_mul_map, List.flatMap_map]
  congr 1
  funext a
  unfold vecRows
  apply List.map_congr_left
  intro n _
  rw [List.map_map]
  apply List.map_congr_left
  intro e _
  simp only [Function.comp, dofNumber]
  ring

theorem useEdges_vec (dim : Nat) (hd : 0 < dim) (c : DofCounts) (tp : Topo) :
    useEdges (vecCounts dim c) tp = useEdges c tp := by
  simp [useEdges, vecCounts, Nat.mul_pos_iff_of_pos_right hd]

theorem useFacets_vec (dim : Nat) (hd : 0 < dim) (c : DofCounts) :
    useFacets (vecCounts dim c) = useFacets c := by
  simp [useFacets, vecCounts, Nat.mul_pos_iff_of_pos_right hd]

theorem offEdge_vec (dim : Nat) (c : DofCounts) (tp : Topo) :
    offEdge (vecCounts dim c) tp = offEdge c tp * dim := by
  simp only [offEdge, vecCounts]; ring

theorem offFacet_vec (dim : Nat) (hd : 0 < dim) (c : DofCounts) (tp : Topo) :
    offFacet (vecCounts dim c) tp = offFacet c tp * dim := by
  unfold offFacet
  rw [useEdges_vec dim hd, offEdge_vec, Nat.add_mul, ite_mul, Nat.zero_mul, Nat.mul_right_comm]
  rfl

theorem offInterior_vec (dim : Nat) (hd : 0 < dim) (c : DofCounts) (tp : Topo) :
    offInterior (vecCounts dim c) tp = offInterior c tp * dim := by
  unfold offInterior
  rw [useFacets_vec dim hd, offFacet_vec dim hd, Nat.add_mul, ite_mul, Nat.zero_mul, Nat.mul_right_comm]
  rfl

theorem dofsTotal_vec (dim : Nat) (hd : 0 < dim) (c : DofCounts) (tp : Topo) :
    dofsTotal (vecCounts dim c) tp = dofsTotal c tp * dim := by
  unfold dofsTotal
  rw [offInterior_vec dim hd]
  simp only [vecCounts]; ring

theorem flattenF_rows (cnt N : Nat) (g : Nat → Nat → Nat) :
    flattenF ((List.range cnt).map (fun a => (List.range N).map (g a)))
      = (List.range N).flatMap (fun e => (List.range cnt).map (fun a => g a e)) := by
  unfold flattenF
  cases cnt with
  | zero => simp
  | succ c =>
    have hl : (((List.range (c + 1)).map (fun a => (List.range N).map (g a))).headD []).length = N := by
      simp [List.range_succ_eq_map]
    rw [hl]
    refine List.flatMap_congr fun e he => ?_
    rw [List.map_map]
    exact List.map_congr_left fun a _ => getD_map_range _ 0 (List.mem_range.1 he)

theorem flattenF_nil : flattenF [] = [] := by simp [flattenF]

theorem sliceRows_dofTable (C N OFF o cnt : Nat) (h : o + cnt ≤ C) :
    sliceRows (dofTable C N OFF) o cnt
      = (List.range cnt).map (fun a => (List.range N).map (fun e => dofNumber C OFF (o + a) e)) := by
  unfold sliceRows dofTable
  rw [← List.map_drop, ← List.map_take, List.range_eq_range' (n := C), List.drop_range',
    List.take_range'_of_length_ge (by omega), List.range'_eq_map_range, List.map_map, Nat.zero_add,
    Nat.mul_one]
  rfl

theorem strideRows_dofTable (cnt dim N OFF n : Nat) (hn : n < dim) :
    strideRows (dofTable (cnt * dim) N OFF) n dim
      = (List.range cnt).map (fun a => (List.range N).map
          (fun e => dofNumber (cnt * dim) OFF (n + a * dim) e)) := by
  unfold strideRows
  rw [length_dofTable]
  have hc : (cnt * dim - n + dim - 1) / dim = cnt := by
    apply Nat.div_eq_of_lt_le
    · omega
    · rw [Nat.succ_mul]; omega
  rw [hc]
  exact List.map_congr_left fun a ha =>
    dofTable_getD_row _ _ _ _ (Nat.add_comm .. ▸ mul_add_lt_mul hn (List.mem_range.1 ha))

theorem length_flattenF_slice {C N OFF o cnt : Nat} (h : o + cnt ≤ C) :
    (flattenF (sliceRows (dofTable C N OFF) o cnt)).length = N * cnt := by
  rw [sliceRows_dofTable C N OFF o cnt h, flattenF_rows]
  exact length_flatMap_range N cnt _ (fun e _ => by simp)

/-- one table of the wrapper restricted to the rows of one component, flattened entity by entity -/
theorem getElem?_flattenF_slice (C N OFF o cnt a e : Nat) (h : o + cnt ≤ C) (ha : a < cnt) (he : e < N) :
    (flattenF (sliceRows (dofTable C N OFF) o cnt))[e * cnt + a]? = some (dofNumber C OFF (o + a) e) := by
  rw [sliceRows_dofTable C N OFF o cnt h, flattenF_rows,
    getElem?_flatMap_range N cnt _ (fun e _ => by simp) e a he ha]
  simp [ha]

theorem length_flattenF_sliceRows (u : Bool) (C N OFF o cnt : Nat) (h : o + cnt ≤ C) :
    (flattenF (sliceRows (if u then dofTable C N OFF else []) o cnt)).length
      = if u then N * cnt else 0 := by
  cases u
  · simp [sliceRows, flattenF_nil]
  · exact length_flattenF_slice h

/-- `p` is the scalar element's own numbering inside this table -/
theorem flattenF_stride_dofTable (cnt dim N off n : Nat) (hn : n < dim) :
    flattenF (strideRows (dofTable (cnt * dim) N (off * dim)) n dim)
      = (List.range (cnt * N)).map (fun p => dim * (off + p) + n) := by
  rw [strideRows_dofTable cnt dim N _ n hn, flattenF_rows, Nat.mul_comm cnt N, range_mul_map]
  apply List.flatMap_congr
  intro e _
  apply List.map_congr_left
  intro a _
  simp only [dofNumber]
  ring

/-- a table that is not there is the table with no rows -/
theorem ite_dofTable_mul (u : Bool) (cnt dim N off : Nat) :
    (if u then dofTable (cnt * dim) N off else []) = dofTable ((if u then cnt else 0) * dim) N off := by
  cases u
  · simp [dofTable]
  · rfl

theorem get_sumCounts (cs : List DofCounts) (t : Nat) :
    (sumCounts cs).get t = (cs.map (fun c => c.get t)).sum := by
  unfold sumCounts DofCounts.get
  split <;> rfl

theorem compOffsets_get (cs : List DofCounts) (k t : Nat) :
    (compOffsets cs k).get t = ((cs.map (fun c => c.get t)).take k).sum := by
  unfold compOffsets
  rw [get_sumCounts, List.map_take]

theorem comp_rows_le (cs : List DofCounts) (k t : Nat) (hk : k < cs.length) :
    (compOffsets cs k).get t + (cs[k]).get t ≤ (sumCounts cs).get t := by
  rw [compOffsets_get, get_sumCounts]
  have := sum_take_le_sum (cs.map (fun c : DofCounts => c.get t)) (k + 1)
  rw [sum_take_succ _ (by simpa using hk)] at this
  simpa using this

theorem wellFormed_comp (cs : List DofCounts) (tp : Topo) (k : Nat) (hk : k < cs.length)
    (hw : WellFormed (sumCounts cs) tp) : WellFormed (cs[k]) tp := by
  have h1 := comp_rows_le cs k 1 hk
  have h2 := comp_rows_le cs k 2 hk
  simp only [DofCounts.get] at h1 h2
  exact ⟨fun h => hw.edge3 (by omega), fun h => hw.facet2 (by omega)⟩

theorem sum_kindSizes (cs : List DofCounts) (tp : Topo) :
    (cs.map (fun c => (kindSizes c tp).sum)).sum = (kindSizes (sumCounts cs) tp).sum := by
  induction cs with
  | nil => simp [kindSizes, get_sumCounts]
  | cons x xs ih =>
    simp only [kindSizes, get_sumCounts, List.map_cons, List.sum_cons, Nat.add_mul, List.sum_map_add] at ih ⊢
    rw [ih]

/-- `split_indices()[k]`: for each kind the rows `o … o + cnt - 1` of the wrapper's table, flattened entity by
    entity -/
theorem splitIndicesComposite_blocks (cs : List DofCounts) (tp : Topo) (k : Nat) (hk : k < cs.length)
    (hw : WellFormed (sumCounts cs) tp) :
    splitIndicesComposite cs tp k
      = (List.range 4).flatMap (fun t => flattenF (sliceRows
          (dofTable ((sumCounts cs).get t) (nentOf tp t) (offOf (sumCounts cs) tp t))
          ((compOffsets cs k).get t) ((cs[k]).get t))) := by
  unfold splitIndicesComposite
  simp only [getD_eq_getElem cs _ hk, nodalDofs, edgeDofs, facetDofs, useEdges_eq hw, useFacets_eq,
    ite_pos_dofTable, interiorDofs]
  rw [range4_flatMap]
  rfl

theorem useEdges_ite (c C : DofCounts) (tp : Topo) (x : Nat) (h : c.edge ≤ C.edge) :
    (if useEdges C tp then x * c.edge else 0) = if useEdges c tp then c.edge * x else 0 := by
  unfold useEdges
  rcases Nat.eq_zero_or_pos c.edge with h0 | h0
  · simp [h0]
  · simp [h0, Nat.lt_of_lt_of_le h0 h, Nat.mul_comm]

theorem useFacets_ite (c C : DofCounts) (x : Nat) (h : c.facet ≤ C.facet) :
    (if useFacets C then x * c.facet else 0) = if useFacets c then c.facet * x else 0 := by
  unfold useFacets
  rcases Nat.eq_zero_or_pos c.facet with h0 | h0
  · simp [h0]
  · simp [h0, Nat.lt_of_lt_of_le h0 h, Nat.mul_comm]

/-! ### `_deduce_bfun`: the pattern `[j] * cnt_j`, repeated once per entity, one block per kind -/

theorem kindPattern_sizes (cnts : List Nat) (n : Nat) (hn : n ≤ cnts.length) :
    ((List.range n).map fun j => (List.replicate (cnts.getD j 0) j).length).sum
      = (cnts.take n).sum := by
  simp only [List.length_replicate]
  exact congrArg List.sum ((map_getD_range_take cnts 0 id hn).trans (List.map_id _))

theorem kindPattern_length (cnts : List Nat) : (kindPattern cnts).length = cnts.sum := by
  rw [kindPattern, List.length_flatMap, kindPattern_sizes cnts _ (Nat.le_refl _), List.take_length]

theorem count_runs (cnts : List Nat) (n x : Nat) :
    ((List.range n).flatMap (fun j => List.replicate (cnts.getD j 0) j)).count x
      = if x < n then cnts.getD x 0 else 0 := by
  rw [List.count_flatMap, sum_map_range]
  simp only [Function.comp, List.count_replicate, beq_iff_eq, Finset.sum_ite_eq', Finset.mem_range]

/-- at position `i` of `L` stands `x`, with `c` earlier occurrences -/
def Occurs (L : List Nat) (i x c : Nat) : Prop := L[i]? = some x ∧ (L.take i).count x = c

theorem Occurs.flatMap {K : Nat} {g : Nat → List Nat} {n s x c : Nat} (hn : n < K)
    (h : Occurs (g n) s x c) :
    Occurs ((List.range K).flatMap g) (((List.range n).map fun j => (g j).length).sum + s) x
      (((List.range n).flatMap g).count x + c) := by
  have hs : s < (g n).length := (List.getElem?_eq_some_iff.1 h.1).1
  exact ⟨(getElem?_flatMap_range_add K g n s hn hs).trans h.1, by
    rw [take_flatMap_range_add K g n s hn (Nat.le_of_lt hs), List.count_append, h.2]⟩

theorem Occurs.replicate_flatten {P : List Nat} {m i s x c : Nat} (hi : i < m) (h : Occurs P s x c) :
    Occurs (List.replicate m P).flatten (i * P.length + s) x (i * P.count x + c) := by
  simpa only [List.flatMap_def, List.map_const', List.length_range, List.sum_replicate_nat,
    count_flatten_replicate] using h.flatMap (g := fun _ => P) hi

theorem occurs_replicate {c n a : Nat} (ha : a < c) : Occurs (List.replicate c n) a n a :=
  ⟨by rw [List.getElem?_replicate, if_pos ha], by
    rw [List.take_replicate, List.count_replicate_self, Nat.min_eq_left (Nat.le_of_lt ha)]⟩

theorem occurs_kindPattern {cnts : List Nat} {n a : Nat} (hn : n < cnts.length) (ha : a < cnts[n]) :
    Occurs (kindPattern cnts) ((cnts.take n).sum + a) n a := by
  have h := Occurs.flatMap (g := fun j => List.replicate (cnts.getD j 0) j) hn
    (occurs_replicate (getD_eq_getElem cnts 0 hn ▸ ha))
  rwa [kindPattern_sizes cnts n (Nat.le_of_lt hn), count_runs, if_neg (Nat.lt_irrefl n), Nat.zero_add] at h

theorem kindPattern_count (cnts : List Nat) (n : Nat) (hn : n < cnts.length) :
    (kindPattern cnts).count n = cnts[n] := by
  rw [kindPattern, count_runs, if_pos hn, getD_eq_getElem cnts 0 hn]

theorem mem_kindPattern {cnts : List Nat} {x : Nat} (h : x ∈ kindPattern cnts) : x < cnts.length := by
  unfold kindPattern at h
  simp only [List.mem_flatMap, List.mem_range, List.mem_replicate] at h
  obtain ⟨j, hj, _, rfl⟩ := h
  exact hj

theorem kindBlock_eq (cnts : List Nat) (nent : Nat) :
    kindBlock cnts (cnts.sum * nent) = (List.replicate nent (kindPattern cnts)).flatten := by
  unfold kindBlock
  rcases Nat.eq_zero_or_pos cnts.sum with h | h
  · have hP : kindPattern cnts = [] := by
      apply List.eq_nil_of_length_eq_zero; rw [kindPattern_length, h]
    simp [h, hP]
  · rcases Nat.eq_zero_or_pos nent with h' | h'
    · subst h'; simp
    · have : cnts.sum * nent > 0 := Nat.mul_pos h h'
      rw [if_pos this, kindPattern_length, Nat.mul_div_cancel_left nent h]

/-- the block of kind `t` in `ns`: the pattern once per entity of that kind -/
def nsBlock (cs : List DofCounts) (r : RefCounts) (t : Nat) : List Nat :=
  (List.replicate (r.get t) (kindPattern (cs.map (fun c => c.get t)))).flatten

theorem bfunNs_eq (cs : List DofCounts) (r : RefCounts) :
    bfunNs cs r = (List.range 4).flatMap (nsBlock cs r) :=
  List.flatMap_congr fun t _ => by
    rw [List.sum_map_mul_right cs (fun c => c.get t), kindBlock_eq]
    rfl

theorem nsPrefix_sizes (cs : List DofCounts) (r : RefCounts) (t : Nat) :
    ((List.range t).map fun j => (nsBlock cs r j).length).sum = rowBase (sumCounts cs) r t :=
  congrArg List.sum (List.map_congr_left fun s _ => by
    rw [nsBlock, length_flatten_replicate, kindPattern_length, get_sumCounts, Nat.mul_comm])

theorem nsPrefix_length (cs : List DofCounts) (r : RefCounts) (t : Nat) :
    ((List.range t).flatMap (nsBlock cs r)).length = rowBase (sumCounts cs) r t := by
  rw [List.length_flatMap, nsPrefix_sizes]

theorem nsPrefix_count (cs : List DofCounts) (r : RefCounts) (t n : Nat) (hn : n < cs.length) :
    ((List.range t).flatMap (nsBlock cs r)).count n = rowBase (cs[n]) r t := by
  rw [List.count_flatMap]
  refine congrArg List.sum (List.map_congr_left fun s _ => ?_)
  rw [Function.comp, nsBlock, count_flatten_replicate, kindPattern_count _ n (by simpa using hn),
    List.getElem_map, Nat.mul_comm]

theorem mem_bfunNs {cs : List DofCounts} {r : RefCounts} {x : Nat} (h : x ∈ bfunNs cs r) :
    x < cs.length := by
  rw [bfunNs_eq] at h
  simp only [List.mem_flatMap, List.mem_range, nsBlock, List.mem_flatten, List.mem_replicate] at h
  obtain ⟨t, _, l, ⟨_, rfl⟩, hxl⟩ := h
  simpa using mem_kindPattern hxl

section Coo
variable {K : Type} [CommRing K] (Nu Nv nq : Nat) (f : Sample K → Sample K → Sample K → K)
  (ub vb : BasisData K) (w : Nat → Nat → Sample K) (dx : Nat → Nat → K) (udofs vdofs : Nat → Nat → Nat)
  (r c : Nat)

/-- contribution of cell `k` to the dense entry `(r, c)` -/
def cellEntry (k : Nat) : K :=
  ∑ j ∈ Finset.range Nu, ∑ i ∈ Finset.range Nv,
    if vdofs i k = r ∧ udofs j k = c then kernelBil nq f ub vb w dx j i k else 0

theorem denseEntry_bilinearTriplets_cells (nt : Nat) :
    denseEntry (bilinearTriplets Nu Nv nt nq f ub vb w dx udofs vdofs) r c
      = ∑ k ∈ Finset.range nt, cellEntry Nu Nv nq f ub vb w dx udofs vdofs r c k := by
  rw [denseEntry_bilinearTriplets]
  exact (Finset.sum_congr rfl fun j _ => Finset.sum_comm).trans Finset.sum_comm

theorem denseEntry_bilinearTripletsOn (cells : List Nat) :
    denseEntry (bilinearTripletsOn cells Nu Nv nq f ub vb w dx udofs vdofs) r c
      = (cells.map (cellEntry Nu Nv nq f ub vb w dx udofs vdofs r c)).sum := by
  unfold bilinearTripletsOn
  rw [denseEntry_bilinearTriplets_cells, ← sum_map_range,
    ← map_getD_range cells 0 (cellEntry Nu Nv nq f ub vb w dx udofs vdofs r c)]
  rfl

end Coo

/-- `np.add.at(out, tind, local)`: cell `k` receives the facet tensors evaluated in it -/
theorem sumToCells_eq {K : Type} [AddCommMonoid K] (tind : List Nat) (L : Nat → K) (k : Nat) :
    sumToCells tind L k = ∑ f ∈ Finset.range tind.length, if tind.getD f 0 = k then L f else 0 := by
  unfold sumToCells
  rw [sum_filter_map, sum_map_range]
  simp

theorem tolocal_eq {K : Type} [Zero K] (Nv nt : Nat) (data : List K) (k i j : Nat) :
    tolocal Nv nt data k i j = data.getD (flatSlot Nv nt i j k) 0 := by
  unfold tolocal reshape3 flatSlot
  congr 1
  ring

theorem bmat_foldl (l : List Nat) (st : Nat × List Nat) :
    l.foldl (bmatStep false) st
      = (st.1 + l.sum, st.2 ++ (List.range l.length).map (fun j => st.1 + (l.take (j + 1)).sum)) := by
  induction l generalizing st with
  | nil => simp
  | cons x xs ih =>
    rw [List.foldl_cons, ih]
    simp only [bmatStep, Bool.false_eq_true, if_false, List.sum_cons, List.length_cons]
    rw [List.range_succ_eq_map]
    simp only [List.map_cons, List.map_map, List.take_succ_cons, List.sum_cons, List.take_zero,
      List.sum_nil, List.append_assoc, List.singleton_append]
    refine Prod.ext (by simp; omega) ?_
    simp only
    congr 2
    · omega
    · apply List.map_congr_left
      intro j _
      simp only [Function.comp, Nat.succ_eq_add_one]
      omega

end Skv.Blocks
