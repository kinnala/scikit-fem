import SkfemVerif.Model.RefineUniform
import SkfemVerif.Props.C11
import Mathlib.Tactic.Ring
import Mathlib.Tactic.Linarith
import Mathlib.Data.List.Perm.Basic
/-
Lemmas about the model of uniform refinement, and the vocabulary of the statements of `Props/C12.lean` that is not
part of the model: `TagsOk`, `ancestors`, `Kind.nverts`, `wordPt`, `Src.ok`.
-/
namespace Skv.Refine

/-! ### layouts: child `i` of cell `k` stands at `i * nt + k` (blocks) resp. `2 k + i` (segments) -/

theorem length_blockLayout (nt : Nat) (T : Template) : (blockLayout nt T).length = T.length * nt := by
  rw [blockLayout, length_flatMap_map, List.length_range]

theorem length_interleavedLayout (nt : Nat) (T : Template) :
    (interleavedLayout nt T).length = nt * T.length := by
  rw [interleavedLayout, length_flatMap_map, List.length_range]

theorem blockLayout_getD (nt : Nat) (T : Template) (i k : Nat) (hi : i < T.length) (hk : k < nt) :
    (blockLayout nt T).getD (i * nt + k) default = (k, T.getD i []) := by
  have h := getElem?_flatMap_map T (List.range nt) (fun w k => (k, w)) i k (by simpa using hk)
  simp only [List.length_range] at h
  simp only [blockLayout, List.getD_eq_getElem?_getD, h, List.getElem?_eq_getElem hi, List.getElem_range,
    Option.map_some, Option.getD_some]

theorem interleavedLayout_getD (nt : Nat) (T : Template) (i k : Nat) (hi : i < T.length) (hk : k < nt) :
    (interleavedLayout nt T).getD (k * T.length + i) default = (k, T.getD i []) := by
  have h := getElem?_flatMap_map (List.range nt) T (fun k w => (k, w)) k i hi
  simp only [interleavedLayout, List.getD_eq_getElem?_getD, h, List.getElem?_range hk,
    List.getElem?_eq_getElem hi, Option.map_some, Option.getD_some]

theorem length_realize (E : Env) (L : Layout) : (E.realize L).length = L.length := by
  simp [Env.realize]

theorem realize_getD (E : Env) (L : Layout) (j : Nat) (hj : j < L.length) :
    (E.realize L).getD j [] = (L.getD j default).2.map (E.num (L.getD j default).1) :=
  getD_map_of_lt _ L j [] default hj

theorem realize_block_getD (E : Env) (nt : Nat) (T : Template) (i k : Nat) (hi : i < T.length) (hk : k < nt) :
    (E.realize (blockLayout nt T)).getD (i * nt + k) [] = (T.getD i []).map (E.num k) := by
  rw [realize_getD _ _ _ (by rw [length_blockLayout]; exact mul_add_lt_mul hk hi), blockLayout_getD nt T i k hi hk]

theorem blockLayout_parent (nt : Nat) (T : Template) (i k : Nat) (hi : i < T.length) (hk : k < nt) :
    ((blockLayout nt T).map (·.1)).getD (i * nt + k) 0 = k := by
  rw [getD_map_of_lt _ _ _ 0 default (by rw [length_blockLayout]; exact mul_add_lt_mul hk hi),
    blockLayout_getD nt T i k hi hk]

theorem blockLayout_parent_mod (nt : Nat) (T : Template) (j : Nat) (hj : j < T.length * nt) :
    ((blockLayout nt T).map (·.1)).getD j 0 = j % nt := by
  revert j
  rw [forall_lt_mul_iff]
  intro i k hi hk
  rw [blockLayout_parent nt T i k hi hk, Nat.mul_add_mod_of_lt hk]

theorem parentsOf_line_getD (m : MeshData) (j : Nat) (hj : j < m.cells.length * 2) :
    (parentsOf .line m).getD j 0 = j / 2 := by
  revert j
  rw [forall_lt_mul_iff]
  intro k i hk hi
  rw [parentsOf, layoutOf,
    getD_map_of_lt _ _ _ 0 default (by rw [length_interleavedLayout]; exact mul_add_lt_mul hi hk),
    show k * 2 + i = k * lineT.length + i from rfl, interleavedLayout_getD _ lineT i k hi hk]
  exact (mul_add_div_of_lt hi).symm

/-! ### tetrahedra: the inner children are grouped by the chosen diagonal, so the parents of an inner block are a
permutation `tetOrder` of the cells, and the code's offset `tetOff` is its inverse -/

/-- a selected cell stands in `masked` at its rank -/
theorem idxOf_masked (mask : List Bool) (k : Nat) (hk : k < mask.length) (hm : mask.getD k false = true) :
    (masked mask).idxOf k = rankIn mask k := by
  obtain ⟨hlt, h⟩ := List.getElem?_eq_some_iff.1
    (getElem?_filter_range_rank (fun i => mask.getD i false) hk hm)
  have := List.Nodup.idxOf_getElem (List.nodup_range.filter _) _ hlt
  rwa [h] at this

/-- the masks select every cell exactly once -/
structure MaskPartition (nt : Nat) (c1 c2 c3 : List Bool) : Prop where
  len1 : c1.length = nt
  len2 : c2.length = nt
  len3 : c3.length = nt
  one : ∀ k, k < nt →
    (c1.getD k false = true ∧ c2.getD k false = false ∧ c3.getD k false = false) ∨
    (c1.getD k false = false ∧ c2.getD k false = true ∧ c3.getD k false = false) ∨
    (c1.getD k false = false ∧ c2.getD k false = false ∧ c3.getD k false = true)

/-- the parents of each of the four inner blocks -/
def tetOrder (c1 c2 c3 : List Bool) : List Nat := masked c1 ++ masked c2 ++ masked c3

theorem filter_three_perm {α : Type} (l : List α) (p1 p2 p3 : α → Bool)
    (h : ∀ a ∈ l, (p1 a = true ∧ p2 a = false ∧ p3 a = false) ∨
      (p1 a = false ∧ p2 a = true ∧ p3 a = false) ∨ (p1 a = false ∧ p2 a = false ∧ p3 a = true)) :
    (l.filter p1 ++ l.filter p2 ++ l.filter p3).Perm l := by
  induction l with
  | nil => exact List.Perm.refl _
  | cons a l ih =>
    have ih' := ih fun b hb => h b (List.mem_cons_of_mem _ hb)
    rcases h a (List.mem_cons_self ..) with ⟨x, y, z⟩ | ⟨x, y, z⟩ | ⟨x, y, z⟩ <;>
      simp only [List.filter_cons, x, y, z, if_true, Bool.false_eq_true, if_false]
    · exact List.Perm.cons a ih'
    · rw [List.append_assoc, List.cons_append]
      exact List.perm_middle.trans (List.Perm.cons a (by rwa [← List.append_assoc]))
    · exact List.perm_middle.trans (List.Perm.cons a ih')

theorem tetOrder_perm {nt : Nat} {c1 c2 c3 : List Bool} (hp : MaskPartition nt c1 c2 c3) :
    (tetOrder c1 c2 c3).Perm (List.range nt) := by
  simp only [tetOrder, masked, hp.len1, hp.len2, hp.len3]
  exact filter_three_perm _ _ _ _ fun k hk => hp.one k (List.mem_range.mp hk)

theorem length_tetOrder {nt : Nat} {c1 c2 c3 : List Bool} (hp : MaskPartition nt c1 c2 c3) :
    (tetOrder c1 c2 c3).length = nt := by
  rw [(tetOrder_perm hp).length_eq, List.length_range]

/-- the code's offset of a cell is its position among the parents of an inner block -/
theorem tetOff_eq {nt : Nat} {c1 c2 c3 : List Bool} (hp : MaskPartition nt c1 c2 c3)
    (k : Nat) (hk : k < nt) : tetOff c1 c2 c3 k = some ((tetOrder c1 c2 c3).idxOf k) := by
  have mem : ∀ c : List Bool, c.length = nt → (k ∈ masked c ↔ c.getD k false = true) := fun c h => by
    simp [masked, h, hk]
  simp only [tetOff, tetOrder, List.idxOf_append, List.mem_append, mem _ hp.len1, mem _ hp.len2,
    List.length_append, countTrue]
  rcases hp.one k hk with ⟨x, y, z⟩ | ⟨x, y, z⟩ | ⟨x, y, z⟩ <;>
    simp only [x, y, z, Bool.false_eq_true, if_false, if_true, or_false, false_or,
      idxOf_masked, hp.len1, hp.len2, hp.len3, hk] <;>
    rw [Nat.add_comm]

theorem tetLayout_parents (nt : Nat) (c1 c2 c3 : List Bool) :
    (tetLayout nt c1 c2 c3).map (·.1) =
      (List.replicate 4 (List.range nt) ++ List.replicate 4 (tetOrder c1 c2 c3)).flatten := by
  simp [tetLayout, blockLayout, tetCornerT, List.flatMap, tetOrder, Function.comp_def, List.replicate]

theorem tetRows_length {nt : Nat} {c1 c2 c3 : List Bool} (hp : MaskPartition nt c1 c2 c3) :
    ∀ r ∈ List.replicate 4 (List.range nt) ++ List.replicate 4 (tetOrder c1 c2 c3), r.length = nt := by
  intro r hr
  simp only [List.mem_append, List.mem_replicate] at hr
  rcases hr with ⟨_, rfl⟩ | ⟨_, rfl⟩
  · exact List.length_range
  · exact length_tetOrder hp

theorem length_tetLayout {nt : Nat} {c1 c2 c3 : List Bool} (hp : MaskPartition nt c1 c2 c3) :
    (tetLayout nt c1 c2 c3).length = 8 * nt := by
  have h := congrArg List.length (tetLayout_parents nt c1 c2 c3)
  rw [List.length_map] at h
  rw [h, length_flatten_of_uniform _ nt (tetRows_length hp)]
  simp

theorem tetParents_getD {nt : Nat} {c1 c2 c3 : List Bool} (hp : MaskPartition nt c1 c2 c3)
    (i k : Nat) (hi : i < 8) (hk : k < nt) :
    ((tetLayout nt c1 c2 c3).map (·.1)).getD (i * nt + k) 0
      = if i < 4 then k else (tetOrder c1 c2 c3).getD k 0 := by
  rw [tetLayout_parents, List.getD_eq_getElem?_getD,
    flatten_getElem?_of_uniform _ nt (tetRows_length hp) i k hk]
  split
  · rename_i h4
    rw [List.getElem?_append_left (by simpa using h4), List.getElem?_replicate, if_pos h4,
      Option.bind_some, List.getElem?_range hk]
    rfl
  · rename_i h4
    rw [List.getElem?_append_right (by simpa using Nat.le_of_not_lt h4), List.getElem?_replicate,
      if_pos (by simp only [List.length_replicate]; omega), Option.bind_some,
      ← List.getD_eq_getElem?_getD]

theorem tetMasks_one (d1 d2 d3 : Rat) :
    ((tetMasks d1 d2 d3).1 = true ∧ (tetMasks d1 d2 d3).2.1 = false ∧ (tetMasks d1 d2 d3).2.2 = false) ∨
    ((tetMasks d1 d2 d3).1 = false ∧ (tetMasks d1 d2 d3).2.1 = true ∧ (tetMasks d1 d2 d3).2.2 = false) ∨
    ((tetMasks d1 d2 d3).1 = false ∧ (tetMasks d1 d2 d3).2.1 = false ∧ (tetMasks d1 d2 d3).2.2 = true) := by
  unfold tetMasks
  by_cases h1 : d1 < d2 <;> by_cases h2 : d1 < d3 <;> by_cases h3 : d2 < d3 <;>
    simp [h1, h2, h3] <;> linarith

theorem tetMaskLists_partition (newp : List Pt) (E : Env) (nt : Nat) :
    MaskPartition nt (tetMaskLists newp E nt).1 (tetMaskLists newp E nt).2.1
      (tetMaskLists newp E nt).2.2 := by
  refine ⟨?_, ?_, ?_, fun k hk => ?_⟩ <;> simp only [tetMaskLists, List.length_map, List.length_range]
  simp only [List.map_map, getD_map_range _ false hk]
  exact tetMasks_one _ _ _

/-- the tag arrays name existing entities -/
def TagsOk (n : Nat) (s : List (List Nat)) : Prop := ∀ ixs ∈ s, ∀ k ∈ ixs, k < n

/-- propagating a subdomain through a table of children that inverts the parent map names exactly the new cells
    whose parent was named -/
theorem mem_children_iff {N nt : Nat} (child : Nat → Nat → Nat) (parent : Nat → Nat)
    (ha : ∀ i k, i < N → k < nt → child i k < N * nt ∧ parent (child i k) = k)
    (hb : ∀ j, j < N * nt → parent j < nt → ∃ i, i < N ∧ child i (parent j) = j)
    {ixs : List Nat} (hix : ∀ k ∈ ixs, k < nt) (j : Nat) :
    j ∈ sortCol ((List.range N).flatMap fun i => ixs.map (child i)) ↔ j < N * nt ∧ parent j ∈ ixs := by
  simp only [mem_sortCol, List.mem_flatMap, List.mem_range, List.mem_map]
  constructor
  · rintro ⟨i, hi, k, hk, rfl⟩
    obtain ⟨h1, h2⟩ := ha i k hi (hix k hk)
    exact ⟨h1, h2.symm ▸ hk⟩
  · rintro ⟨hj, hp⟩
    obtain ⟨i, hi, e⟩ := hb j hj (hix _ hp)
    exact ⟨i, hi, _, hp, e⟩

/-- the generic code of `Mesh.refined` is right for the block layout -/
theorem mem_genericSub (nt : Nat) (T : Template) {ixs : List Nat} (hix : ∀ k ∈ ixs, k < nt) (j : Nat) :
    j ∈ genericSub T.length nt ixs
      ↔ j < T.length * nt ∧ ((blockLayout nt T).map (·.1)).getD j 0 ∈ ixs := by
  refine mem_children_iff (fun i k => k + i * nt) (fun j => ((blockLayout nt T).map (·.1)).getD j 0)
    (fun i k hi hk => ?_) ?_ hix j
  · rw [Nat.add_comm]
    exact ⟨mul_add_lt_mul hk hi, blockLayout_parent nt T i k hi hk⟩
  · rw [forall_lt_mul_iff]
    intro i k hi hk _
    rw [blockLayout_parent nt T i k hi hk]
    exact ⟨i, hi, Nat.add_comm ..⟩

theorem mem_lineSub (m : MeshData) {ixs : List Nat} (hix : ∀ k ∈ ixs, k < m.cells.length) (j : Nat) :
    j ∈ lineSub ixs ↔ j < 2 * m.cells.length ∧ (parentsOf .line m).getD j 0 ∈ ixs := by
  have e : lineSub ixs = sortCol ((List.range 2).flatMap fun i => ixs.map fun k => k * 2 + i) := by
    simp [lineSub, List.range_succ, Nat.mul_comm]
  rw [e]
  refine mem_children_iff (fun i k => k * 2 + i) (fun j => (parentsOf .line m).getD j 0) (fun i k hi hk => ?_)
    (fun j hj _ => ?_) hix j
  · have h := mul_add_lt_mul hi hk
    exact ⟨Nat.mul_comm m.cells.length 2 ▸ h, (parentsOf_line_getD m _ h).trans (mul_add_div_of_lt hi)⟩
  · rw [parentsOf_line_getD m j (Nat.mul_comm .. ▸ hj)]
    exact ⟨j % 2, Nat.mod_lt _ Nat.two_pos, Nat.div_add_mod' j 2⟩

theorem tetNewT_getD (nt : Nat) (c1 c2 c3 : List Bool) (i k : Nat) (hi : i < 8) (hk : k < nt) :
    ((tetNewT nt c1 c2 c3).getD i []).getD k 0
      = if i < 4 then k + i * nt else match tetOff c1 c2 c3 k with
        | some o => o + i * nt
        | none => 0 := by
  unfold tetNewT
  split
  · rename_i h4
    rw [getD_append_left _ _ _ (by simpa using h4), getD_map_range _ _ h4, getD_map_range _ _ hk]
  · rename_i h4
    obtain ⟨r, rfl⟩ : ∃ r, i = 4 + r := ⟨i - 4, by omega⟩
    rw [getD_append_right (by rw [List.length_map, List.length_range]), getD_map_range _ _ (by omega),
      getD_map_range _ _ hk]
    rfl

theorem mem_tetSub {nt : Nat} {c1 c2 c3 : List Bool} (hp : MaskPartition nt c1 c2 c3)
    {ixs : List Nat} (hix : ∀ k ∈ ixs, k < nt) (j : Nat) :
    j ∈ tetSub nt c1 c2 c3 ixs ↔ j < 8 * nt ∧ ((tetLayout nt c1 c2 c3).map (·.1)).getD j 0 ∈ ixs := by
  have e : tetSub nt c1 c2 c3 ixs = sortCol ((List.range 8).flatMap fun i =>
      ixs.map (fun k => ((tetNewT nt c1 c2 c3).getD i []).getD k 0)) := by
    rw [tetSub, List.flatMap_def, List.flatMap_def, ← map_getD_range (tetNewT nt c1 c2 c3) []]
    simp [tetNewT]
  rw [e]
  refine mem_children_iff _ (fun j => ((tetLayout nt c1 c2 c3).map (·.1)).getD j 0)
    (fun i k hi hk => ?_) ?_ hix j
  · rw [tetNewT_getD nt c1 c2 c3 i k hi hk]
    split
    · rename_i h4
      rw [Nat.add_comm, tetParents_getD hp i k hi hk, if_pos h4]
      exact ⟨mul_add_lt_mul hk hi, rfl⟩
    · rename_i h4
      have hm := (tetOrder_perm hp).mem_iff.mpr (List.mem_range.mpr hk)
      have ho := length_tetOrder hp ▸ List.idxOf_lt_length_of_mem hm
      simp only [tetOff_eq hp k hk]
      rw [Nat.add_comm, tetParents_getD hp i _ hi ho, if_neg h4]
      exact ⟨mul_add_lt_mul ho hi, getD_idxOf hm 0⟩
  · rw [forall_lt_mul_iff]
    intro i k hi hk
    rw [tetParents_getD hp i k hi hk]
    split
    · rename_i h4
      refine fun _ => ⟨i, hi, ?_⟩
      rw [tetNewT_getD nt c1 c2 c3 i k hi hk, if_pos h4, Nat.add_comm]
    · rename_i h4
      refine fun hlt => ⟨i, hi, ?_⟩
      have hkl : k < (tetOrder c1 c2 c3).length := (length_tetOrder hp).symm ▸ hk
      rw [tetNewT_getD nt c1 c2 c3 i _ hi hlt, if_neg h4, tetOff_eq hp _ hlt, getD_eq_getElem _ _ hkl,
        ((tetOrder_perm hp).nodup_iff.mpr List.nodup_range).idxOf_getElem, Nat.add_comm]

theorem buildEntities_snd (cells ref : List (List Nat)) (sort : Bool) :
    (buildEntities cells ref sort).2 = entityMapping cells ref := rfl

theorem map_sortCol_buildEntities (cells ref : List (List Nat)) (sort : Bool) :
    (buildEntities cells ref sort).1.map sortCol = entitiesSorted cells ref := by
  cases sort
  · exact map_sortCol_entitiesUnsorted cells ref
  · refine map_eq_self fun ent h => ?_
    obtain ⟨slot, _, c, _, rfl⟩ := mem_entitiesSorted.mp h
    exact sortCol_of_pairwise (pairwise_sortCol _)

theorem buildEntities_fst_length (cells ref : List (List Nat)) (sort : Bool) :
    (buildEntities cells ref sort).1.length = (entitiesSorted cells ref).length := by
  rw [← map_sortCol_buildEntities cells ref sort, List.length_map]

/-- `C11_slot_spec` for either storage mode: the entity named by `tbl[j][k]` exists and, sorted, is the sorted
    vertex tuple of local entity `ref[j]` of cell `k` -/
theorem buildEntities_slot (cells ref : List (List Nat)) (sort : Bool) (j k : Nat)
    (hj : j < ref.length) (hk : k < cells.length) :
    (((buildEntities cells ref sort).2.getD j []).getD k 0 < (buildEntities cells ref sort).1.length) ∧
    sortCol ((buildEntities cells ref sort).1.getD (((buildEntities cells ref sort).2.getD j []).getD k 0) [])
      = sortCol (slotCol (cells.getD k []) (ref.getD j [])) := by
  obtain ⟨h1, h2, h3, e⟩ := C11.C11_slot_spec cells ref j k hj hk
  rw [buildEntities_snd, getD_eq_getElem _ _ h1, getD_eq_getElem _ _ h2, getD_eq_getElem _ _ hk,
    getD_eq_getElem _ _ hj, buildEntities_fst_length, ← e]
  refine ⟨h3, ?_⟩
  rw [← getD_map_of_lt sortCol _ _ [] [] (by rw [buildEntities_fst_length]; exact h3),
    map_sortCol_buildEntities, getD_eq_getElem _ _ h3]

theorem buildEntities_slot_sorted (cells ref : List (List Nat)) (j k : Nat)
    (hj : j < ref.length) (hk : k < cells.length) :
    (((buildEntities cells ref true).2.getD j []).getD k 0 < (buildEntities cells ref true).1.length) ∧
    (buildEntities cells ref true).1.getD (((buildEntities cells ref true).2.getD j []).getD k 0) []
      = sortCol (slotCol (cells.getD k []) (ref.getD j [])) := by
  obtain ⟨h, e⟩ := buildEntities_slot cells ref true j k hj hk
  refine ⟨h, e ▸ (sortCol_of_pairwise ?_).symm⟩
  obtain ⟨slot, _, c, _, e'⟩ := mem_entitiesSorted.mp (getD_mem _ [] h)
  exact e' ▸ pairwise_sortCol _

/-- `C11_same_entity_iff`, read with `getD` as the numbering reads the tables -/
theorem entityMapping_getD_eq_iff (cells ref : List (List Nat)) {j k j' k' : Nat} (hj : j < ref.length)
    (hk : k < cells.length) (hj' : j' < ref.length) (hk' : k' < cells.length) :
    ((entityMapping cells ref).getD j []).getD k 0 = ((entityMapping cells ref).getD j' []).getD k' 0 ↔
      sortCol (slotCol (cells.getD k []) (ref.getD j [])) = sortCol (slotCol (cells.getD k' []) (ref.getD j' [])) := by
  rw [getD_eq_getElem _ [] hk, getD_eq_getElem _ [] hk', getD_eq_getElem _ [] hj, getD_eq_getElem _ [] hj']
  exact C11.C11_same_entity_iff cells ref j k j' k' hj hk hj' hk'

/-- `np.max(tbl) + 1` is the number of entities -/
theorem listMax_table (cells ref : List (List Nat)) (sort : Bool) (hnt : 0 < cells.length)
    (hr : 0 < ref.length) :
    listMax (buildEntities cells ref sort).2.flatten + 1 = (buildEntities cells ref sort).1.length := by
  rw [buildEntities_snd, buildEntities_fst_length]
  exact listMax_flatten_entityMapping cells ref (List.length_pos_of_mem
    (mem_entitiesSorted.mpr ⟨_, List.getElem_mem hr, _, List.getElem_mem hnt, rfl⟩))

theorem length_postInit (b : Bool) (cells : List (List Nat)) : (postInit b cells).length = cells.length := by
  unfold postInit; split <;> simp

theorem refinedOnceWith_cells (u : MeshData → MeshData) (m : MeshData) :
    (refinedOnceWith u m).cells = (u m).cells := by
  simp only [refinedOnceWith]; split <;> rfl

theorem refinedOnceWith_p (u : MeshData → MeshData) (m : MeshData) :
    (refinedOnceWith u m).p = (u m).p := by
  simp only [refinedOnceWith]; split <;> rfl

theorem refinedOnceWith_bnd (u : MeshData → MeshData) (m : MeshData) :
    (refinedOnceWith u m).bnd = (u m).bnd := by
  simp only [refinedOnceWith]; split <;> rfl

theorem refinedOnceWith_sortT (u : MeshData → MeshData) (m : MeshData) :
    (refinedOnceWith u m).sortT = (u m).sortT := by
  simp only [refinedOnceWith]; split <;> rfl

theorem length_layoutOf (kd : Kind) (m : MeshData) :
    (layoutOf kd m).length = kd.nchild * m.cells.length := by
  cases kd
  · exact (length_interleavedLayout ..).trans (Nat.mul_comm ..)
  · exact length_blockLayout ..
  · exact length_blockLayout ..
  · exact length_tetLayout (tetMaskLists_partition _ _ _)
  · exact length_blockLayout ..

theorem length_newCells (kd : Kind) (m : MeshData) :
    (newCells kd m).length = kd.nchild * m.cells.length := by
  rw [newCells, length_postInit, rawCells, length_realize, length_layoutOf]

theorem refinedOnce_cells_length (kd : Kind) (m : MeshData) :
    (refinedOnce kd m).cells.length = kd.nchild * m.cells.length := by
  rw [refinedOnce, refinedOnceWith_cells]; exact length_newCells kd m

/-- the ancestor in the original mesh of every cell after `n` passes: the parent map iterated -/
def ancestors (kd : Kind) : Nat → MeshData → List Nat
  | 0, m => List.range m.cells.length
  | n + 1, m => (ancestors kd n (refinedOnce kd m)).map (fun a => (parentsOf kd m).getD a 0)

theorem length_ancestors (kd : Kind) (n : Nat) (m : MeshData) :
    (ancestors kd n m).length = (refined kd n m).cells.length := by
  induction n generalizing m with
  | zero => simp [ancestors, refined]
  | succ n ih => simp [ancestors, refined, ih]

theorem ancestors_zero_getD (kd : Kind) (m : MeshData) (j : Nat) (hj : j < m.cells.length) :
    (ancestors kd 0 m).getD j 0 = j := by
  rw [ancestors, getD_eq_getElem _ _ (by simpa using hj), List.getElem_range]

theorem ancestors_succ_getD (kd : Kind) (n : Nat) (m : MeshData) (j : Nat)
    (hj : j < (refined kd n (refinedOnce kd m)).cells.length) :
    (ancestors kd (n + 1) m).getD j 0
      = (parentsOf kd m).getD ((ancestors kd n (refinedOnce kd m)).getD j 0) 0 := by
  rw [ancestors, getD_map_of_lt _ _ j 0 0 (by rw [length_ancestors]; exact hj)]

/-- the tables of the numbering environment are those of `build_entities` -/
structure EnvOk (kd : Kind) (E : Env) : Prop where
  t2e : E.t2e = entityMapping E.cells kd.edges
  t2f : kd ≠ .tet → E.t2f = entityMapping E.cells kd.facets

theorem envOf_ok (kd : Kind) (m : MeshData) : EnvOk kd (envOf kd m) := by
  cases kd <;> constructor <;> first | rfl | (intro h; first | rfl | exact absurd rfl h)

theorem envOf_cells (kd : Kind) (m : MeshData) : (envOf kd m).cells = m.cells := by
  cases kd <;> rfl

def Kind.nverts : Kind → Nat
  | .line => 2 | .tri => 3 | .quad => 4 | .tet => 4 | .hex => 8

/-- where a word lies, given the positions `X` of the parent's vertices: the mean over the named entity -/
def wordPt (kd : Kind) (X : List Pt) : Src → Pt
  | .v i => X.getD i []
  | .e j => meanPts kd.dim ((kd.edges.getD j []).map (fun i => X.getD i []))
  | .f j => meanPts kd.dim ((kd.facets.getD j []).map (fun i => X.getD i []))
  | .c => meanPts kd.dim X

/-- the words that occur for a cell type -/
def Src.ok (kd : Kind) : Src → Bool
  | .v i => i < kd.nverts
  | .e j => j < kd.edges.length
  | .f j => (kd == .tri || kd == .quad || kd == .hex) && j < kd.facets.length
  | .c => kd == .line || kd == .quad || kd == .hex

theorem Kind.entities_ok (kd : Kind) :
    ∀ ent ∈ kd.edges ++ kd.facets, ent ≠ [] ∧ ∀ i ∈ ent, i < kd.nverts := by
  cases kd <;> decide

/-- how the geometric lemmas ask for `n` points of dimension `d` (`rfl` for points written out) -/
theorem of_map_length {X : List Pt} {n d : Nat} (h : X.map List.length = List.replicate n d) :
    X.length = n ∧ ∀ P ∈ X, P.length = d :=
  ⟨by simpa using congrArg List.length h, fun _ hP => List.eq_of_mem_replicate (h ▸ List.mem_map_of_mem hP)⟩

/-- a valid word names a vertex of the parent or the mean over one of its entities -/
theorem wordPt_cases {kd : Kind} {w : Src} (hw : w.ok kd = true) :
    (∃ i, i < kd.nverts ∧ w = .v i) ∨
    ∃ E ∈ List.range kd.nverts :: (kd.edges ++ kd.facets), E ≠ [] ∧ (∀ k ∈ E, k < kd.nverts) ∧
      ∀ X : List Pt, X.length = kd.nverts → wordPt kd X w = meanPts kd.dim (E.map fun k => X.getD k []) := by
  cases w with
  | v i => exact Or.inl ⟨i, by simpa [Src.ok] using hw, rfl⟩
  | e j =>
    have hm := List.mem_append_left kd.facets (getD_mem kd.edges [] (by simpa [Src.ok] using hw))
    exact Or.inr ⟨_, List.mem_cons_of_mem _ hm, (Kind.entities_ok kd _ hm).1, (Kind.entities_ok kd _ hm).2,
      fun _ _ => rfl⟩
  | f j =>
    simp only [Src.ok, Bool.and_eq_true, decide_eq_true_eq] at hw
    have hm := List.mem_append_right kd.edges (getD_mem kd.facets [] hw.2)
    exact Or.inr ⟨_, List.mem_cons_of_mem _ hm, (Kind.entities_ok kd _ hm).1, (Kind.entities_ok kd _ hm).2,
      fun _ _ => rfl⟩
  | c =>
    exact Or.inr ⟨_, List.mem_cons_self .., by cases kd <;> decide, fun k hk => List.mem_range.mp hk,
      fun X hX => by rw [wordPt, ← hX, map_getD_range_id]⟩

theorem addPt_left_comm (a b c : Pt) : addPt a (addPt b c) = addPt b (addPt a c) := by
  induction a generalizing b c with
  | nil => cases b <;> simp [addPt]
  | cons x xs ih =>
    cases b with
    | nil => simp [addPt]
    | cons y ys =>
      cases c with
      | nil => simp [addPt]
      | cons z zs =>
        have := ih ys zs
        simp only [addPt, List.zipWith_cons_cons] at this ⊢
        rw [this]
        congr 1
        ring

instance : LeftCommutative addPt := ⟨addPt_left_comm⟩

/-- needed because the stored entity lists the vertices of a slot in another order -/
theorem meanPts_perm (d : Nat) {l l' : List Pt} (h : l.Perm l') : meanPts d l = meanPts d l' := by
  rw [meanPts, meanPts, sumPts, sumPts, h.foldr_eq, h.length_eq]

theorem length_midpoints (d : Nat) (p : List Pt) (ents : List (List Nat)) :
    (midpoints d p ents).length = ents.length := List.length_map _

theorem entity_mid_pos (d : Nat) (p : List Pt) (cells ref : List (List Nat)) (sort : Bool) (j k : Nat)
    (hj : j < ref.length) (hk : k < cells.length) (hlt : ∀ i ∈ ref.getD j [], i < (cells.getD k []).length) :
    ((buildEntities cells ref sort).2.getD j []).getD k 0 < (midpoints d p (buildEntities cells ref sort).1).length ∧
    (midpoints d p (buildEntities cells ref sort).1).getD
        (((buildEntities cells ref sort).2.getD j []).getD k 0) []
      = meanPts d ((ref.getD j []).map (fun i => (gather p (cells.getD k [])).getD i [])) := by
  obtain ⟨h1, h2⟩ := buildEntities_slot cells ref sort j k hj hk
  refine ⟨(length_midpoints ..).symm ▸ h1, ?_⟩
  rw [midpoints, getD_map_of_lt _ _ _ [] [] h1]
  refine (meanPts_perm d ((perm_of_sortCol_eq h2).map _)).trans ?_
  exact congrArg (meanPts d) (map_getD_map (fun v => p.getD v []) _ 0 [] hlt).symm

theorem listMax_facetTable (kd : Kind) (m : MeshData) (hnt : 0 < m.cells.length) :
    listMax (facetTable kd m).2.flatten + 1 = (facetTable kd m).1.length :=
  listMax_table _ _ _ hnt (by cases kd <;> decide)

theorem listMax_edgeTable (m : MeshData) (hnt : 0 < m.cells.length) :
    listMax (edgeTable .hex m).2.flatten + 1 = (edgeTable .hex m).1.length :=
  listMax_table _ _ _ hnt (by decide)

end Skv.Refine
