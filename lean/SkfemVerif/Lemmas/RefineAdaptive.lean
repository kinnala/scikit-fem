import SkfemVerif.Model.RefineAdaptive
import SkfemVerif.Lemmas.Np
/-
The index side of C13.  The marking loop only ever applies `step`, so what holds at the start and is kept by `step`
holds at the end (`closure_induction`); a pass that does not end the loop raises the number of marks, which never
exceeds the length, and that bounds the fuel (`step_closure`).  Numbering by rank: a child sits at the rank of its
parent among the cells of its class, inside one of the 13 blocks that `np.hstack` puts one after the other
(`blocks_prefix` is the running `offset` of the code).
Vocabulary of the C13 statements: `Closed`, `sideRV`, `sideMarked`, `trace`, `traceOK`, `slot`.
-/
namespace Skv.RA

theorem length_step (t2f : List Tri) (m : List Bool) : (step t2f m).length = m.length := by
  simp [step]

theorem get_step (t2f : List Tri) (m : List Bool) (f : Nat) :
    get (step t2f m) f = true ↔ get m f = true
      ∨ f < m.length ∧ ∃ c ∈ t2f, (get m c.1 = true ∨ get m c.2.1 = true) ∧ c.2.2 = f := by
  rw [show (∃ c ∈ t2f, (get m c.1 = true ∨ get m c.2.1 = true) ∧ c.2.2 = f) ↔ f ∈ triggered t2f m by
    simp [triggered]]
  unfold get step
  by_cases h : f < m.length <;> simp [List.getD_eq_getElem?_getD, h]

theorem get_of_ge (m : List Bool) (f : Nat) (h : m.length ≤ f) : get m f = false := by
  simp [get, List.getD_eq_getElem?_getD, List.getElem?_eq_none h]

/-- a pass (`c` = membership in `triggered`) only adds marks, and changes nothing if it adds none -/
theorem count_or (c : Nat → Bool) : ∀ (m : List Bool) (n : Nat),
    m.count true ≤ ((m.zipIdx n).map fun p => p.1 || c p.2).count true
      ∧ (((m.zipIdx n).map fun p => p.1 || c p.2).count true ≤ m.count true →
          ((m.zipIdx n).map fun p => p.1 || c p.2) = m)
  | [], _ => by simp
  | x :: m, n => by
    obtain ⟨h1, h2⟩ := count_or c m (n + 1)
    cases x <;> cases hc : c n <;> simp [List.zipIdx_cons, hc]
    · exact ⟨h1, h2⟩
    · omega
    · exact ⟨h1, h2⟩
    · exact ⟨h1, h2⟩

theorem closure_induction (t2f : List Tri) (P : List Bool → Prop) (hs : ∀ m, P m → P (step t2f m)) :
    ∀ fuel m, P m → P (closure fuel t2f m) := by
  intro fuel
  induction fuel with
  | zero => exact fun m h => h
  | succ n ih =>
    intro m h
    unfold closure
    split
    · exact ih _ (hs m h)
    · exact hs m h

theorem closure_length (t2f : List Tri) (fuel : Nat) (m : List Bool) : (closure fuel t2f m).length = m.length :=
  closure_induction t2f (·.length = m.length) (fun m' h => (length_step t2f m').trans h) fuel m rfl

theorem closure_extends (t2f : List Tri) (fuel : Nat) (m : List Bool) (f : Nat) (h : get m f = true) :
    get (closure fuel t2f m) f = true :=
  closure_induction t2f (get · f = true) (fun m' h' => (get_step t2f m' f).2 (.inl h')) fuel m h

theorem closure_eq_of_step_eq (t2f : List Tri) (r : List Bool) (hfix : step t2f r = r) (fuel : Nat) :
    closure fuel t2f r = r :=
  closure_induction t2f (· = r) (fun m' h => by rw [h, hfix]) fuel r rfl

theorem step_closure (t2f : List Tri) : ∀ fuel m, m.length < fuel + countTrue m →
    step t2f (closure fuel t2f m) = closure fuel t2f m := by
  intro fuel
  induction fuel with
  | zero =>
    intro m h
    have := List.count_le_length (a := true) (l := m)
    simp [countTrue] at h
    omega
  | succ n ih =>
    intro m h
    unfold closure
    split
    · rename_i hlt
      apply ih
      rw [length_step]
      omega
    · rename_i hlt
      have heq : step t2f m = m := (count_or _ m 0).2 (by simp only [countTrue, step] at hlt; omega)
      rw [heq, heq]

/-- the rule the loop closes under -/
def Closed (t2f : List Tri) (S : Nat → Prop) : Prop :=
  ∀ c ∈ t2f, (S c.1 ∨ S c.2.1) → S c.2.2

theorem step_sub (t2f : List Tri) (m : List Bool) (S : Nat → Prop) (hS : Closed t2f S)
    (hm : ∀ f, get m f = true → S f) : ∀ f, get (step t2f m) f = true → S f := by
  intro f hf
  rcases (get_step t2f m f).1 hf with h | ⟨_, c, hc, hor, rfl⟩
  · exact hm f h
  · exact hS c hc (hor.imp (hm _) (hm _))

theorem closure_sub (t2f : List Tri) (S : Nat → Prop) (hS : Closed t2f S) (fuel : Nat) (m : List Bool)
    (hm : ∀ f, get m f = true → S f) : ∀ f, get (closure fuel t2f m) f = true → S f :=
  closure_induction t2f (fun m' => ∀ f, get m' f = true → S f) (fun m' => step_sub t2f m' S hS) fuel m hm

theorem closed_of_step_eq (t2f : List Tri) (r : List Bool) (hfix : step t2f r = r)
    (c : Tri) (hc : c ∈ t2f) (hlt : c.2.2 < r.length)
    (h : get r c.1 = true ∨ get r c.2.1 = true) : get r c.2.2 = true :=
  hfix ▸ (get_step t2f r c.2.2).2 (.inr ⟨hlt, c, hc, h, rfl⟩)

theorem get_initMarks (t2f : List Tri) (nf : Nat) (marked : List Nat) (f : Nat) :
    get (initMarks t2f nf marked) f = true ↔
      f < nf ∧ ∃ k ∈ marked, ∃ c, t2f[k]? = some c ∧ (f = c.1 ∨ f = c.2.1 ∨ f = c.2.2) := by
  unfold get initMarks
  by_cases h : f < nf
  · simp only [getD_map_range _ false h, List.contains_iff_mem, List.mem_flatMap, h, true_and]
    refine exists_congr fun k => and_congr_right fun _ => ?_
    cases t2f[k]? <;> simp
  · simp [List.getD_eq_getElem?_getD, h]
theorem length_block (x : TriInput) (cl : Cls) (j : Nat) : (x.block cl j).length = x.count cl := by
  simp [TriInput.block, TriInput.count]

theorem members_rank (cls : List Cls) (cl : Cls) (k : Nat) (hk : k < cls.length)
    (hcl : cls.getD k .bad = cl) : (members cls cl)[rankIn cls cl k]? = some k := by
  unfold members rankIn
  exact getElem?_filter_range_rank (fun i => cls.getD i .bad == cl) hk (by show (cls.getD k .bad == cl) = true; rw [hcl]; simp)

theorem block_rank (x : TriInput) (cl : Cls) (j k : Nat) (hk : k < x.cls.length)
    (hcl : x.cls.getD k .bad = cl) : (x.block cl j)[rankIn x.cls cl k]? = some (x.child cl j k) := by
  simp [TriInput.block, List.getElem?_map, members_rank x.cls cl k hk hcl]

/-- position of the block (class, child number) in `blocks` -/
def blockPos : Cls → Nat
  | .rest => 0 | .red => 1 | .blue1 => 5 | .blue2 => 8 | .green => 11 | .bad => 13

theorem blocks_getD (x : TriInput) (cl : Cls) (j : Nat) (hj : j < (template cl).length) :
    x.blocks.getD (blockPos cl + j) [] = x.block cl j := by
  cases cl <;> simp only [template, List.length_cons, List.length_nil, Nat.not_lt_zero] at hj <;>
    rcases j with _ | _ | _ | _ | j <;> first | omega | rfl

theorem blocks_lengths (x : TriInput) : x.blocks.map List.length =
    [x.count .rest, x.count .red, x.count .red, x.count .red, x.count .red,
     x.count .blue1, x.count .blue1, x.count .blue1, x.count .blue2, x.count .blue2, x.count .blue2,
     x.count .green, x.count .green] := by
  simp only [TriInput.blocks, List.map_cons, List.map_nil, length_block]

theorem blocks_prefix (x : TriInput) (cl : Cls) (j : Nat) (hj : j < (template cl).length) :
    ((x.blocks.map List.length).take (blockPos cl + j)).sum = x.offset cl + j * x.count cl := by
  rw [blocks_lengths]
  cases cl <;> simp only [template, List.length_cons, List.length_nil, Nat.not_lt_zero] at hj <;>
    rcases j with _ | _ | _ | _ | j <;>
    simp only [blockPos, TriInput.offset, Nat.zero_add, List.take_succ_cons, List.take_zero, List.sum_cons,
      List.sum_nil] <;> omega
theorem blockPos_decomp (a : Nat) (ha : a < 13) :
    ∃ cl j, cl ≠ Cls.bad ∧ j < (template cl).length ∧ a = blockPos cl + j := by
  have : ∀ a < 13, ∃ cl ∈ [Cls.rest, .red, .blue1, .blue2, .green], ∃ j < 4,
      cl ≠ Cls.bad ∧ j < (template cl).length ∧ a = blockPos cl + j := by decide
  obtain ⟨cl, -, j, -, h⟩ := this a ha
  exact ⟨cl, j, h⟩
theorem length_filter_get (m : List Bool) :
    ((List.range m.length).filter (fun f => get m f)).length = m.count true :=
  (length_filter_range_getD m false id).trans
    (by rw [List.count_eq_countP]; congr; funext b; cases b <;> rfl)

theorem classify_ne_bad (b0 b1 b2 : Bool) (h : (b0 = true ∨ b1 = true) → b2 = true) :
    classify b0 b1 b2 ≠ .bad := by
  cases b0 <;> cases b1 <;> cases b2 <;> simp [classify] at h ⊢

theorem classify_bad (b0 b1 b2 : Bool) :
    classify b0 b1 b2 = .bad ↔ ((b0 = true ∨ b1 = true) ∧ b2 = false) := by
  cases b0 <;> cases b1 <;> cases b2 <;> simp [classify]

theorem classify_red (b0 b1 b2 : Bool) :
    classify b0 b1 b2 = .red ↔ (b0 = true ∧ b1 = true ∧ b2 = true) := by
  cases b0 <;> cases b1 <;> cases b2 <;> simp [classify]

theorem classify_rest (b0 b1 b2 : Bool) :
    classify b0 b1 b2 = .rest ↔ (b0 = false ∧ b1 = false ∧ b2 = false) := by
  cases b0 <;> cases b1 <;> cases b2 <;> simp [classify]

theorem lineCells_unmarked (mid0 : Nat) (t : List Seg) (marked : List Nat) (k : Nat) (hk : k < t.length)
    (hm : k ∉ marked) :
    (lineCells mid0 t marked)[((List.range k).filter (fun i => !marked.contains i)).length]?
      = some (t.getD k (0, 0)) := by
  have h := getElem?_filter_range_rank (fun i => !marked.contains i) hk (by simpa using hm)
  obtain ⟨hlt, _⟩ := List.getElem?_eq_some_iff.1 h
  unfold lineCells nonmarked
  rw [List.append_assoc, List.getElem?_append_left (by simpa using hlt)]
  rw [List.getElem?_map, h]
  rfl

theorem lineCells_marked (mid0 : Nat) (t : List Seg) (marked : List Nat) (i : Nat) (hi : i < marked.length) :
    (lineCells mid0 t marked)[(nonmarked t.length marked).length + i]?
        = some ((t.getD marked[i] (0, 0)).1, mid0 + i)
    ∧ (lineCells mid0 t marked)[(nonmarked t.length marked).length + marked.length + i]?
        = some (mid0 + i, (t.getD marked[i] (0, 0)).2) := by
  unfold lineCells
  constructor
  · rw [List.append_assoc, List.getElem?_append_right (by simp), List.getElem?_append_left (by simp; omega)]
    simp [hi]
  · rw [List.getElem?_append_right (by simp)]
    simp [hi]
theorem lineChildIdxs_marked (nt : Nat) (marked : List Nat) (hnd : marked.Nodup) (i : Nat) (hi : i < marked.length) :
    lineChildIdxs nt marked marked[i]
      = [(nonmarked nt marked).length + i, (nonmarked nt marked).length + marked.length + i] := by
  unfold lineChildIdxs
  have hmem : marked[i] ∈ marked := List.getElem_mem hi
  have hidx : marked.idxOf marked[i] = i := List.Nodup.idxOf_getElem hnd i hi
  simp [hmem, hidx]

theorem lineChildIdxs_unmarked (nt : Nat) (marked : List Nat) (k : Nat) (hm : k ∉ marked) :
    lineChildIdxs nt marked k = [((List.range k).filter (fun i => !marked.contains i)).length] := by
  unfold lineChildIdxs
  simp [hm]

/-- end point, midpoint, end point of the side in slot `s` of `t2f` -/
def sideRV : Nat → RV × RV × RV
  | 0 => (.v0, .m0, .v1)
  | 1 => (.v1, .m1, .v2)
  | _ => (.v0, .m2, .v2)

/-- is the facet in slot `s` marked in a cell of class `cl`? -/
def sideMarked : Cls → Nat → Bool
  | .red, _ => true
  | .blue1, s => s == 1 || s == 2
  | .blue2, s => s == 0 || s == 2
  | .green, s => s == 2
  | _, _ => false

def onSide (s : Nat) (x : RV) : Bool :=
  x == (sideRV s).1 || x == (sideRV s).2.1 || x == (sideRV s).2.2

def childEdges (T : RV × RV × RV) : List (RV × RV) := [(T.1, T.2.1), (T.2.1, T.2.2), (T.2.2, T.1)]

/-- the child edges lying on side `s`.  That the only symbolic points on the line through the side are its end
    points and its midpoint is a fact about `rvx`, `rvy` of Lemmas/RefineAdaptiveGeom.lean that no theorem states. -/
def trace (cl : Cls) (s : Nat) : List (RV × RV) :=
  ((template cl).flatMap childEdges).filter (fun e => onSide s e.1 && onSide s e.2)

def sameEdge (e e' : RV × RV) : Bool := e == e' || e == (e'.2, e'.1)

/-- the trace is the whole side if its facet is not marked and its two halves if it is -/
def traceOK (cl : Cls) (s : Nat) : Bool :=
  let a := (sideRV s).1
  let m := (sideRV s).2.1
  let b := (sideRV s).2.2
  if sideMarked cl s then
    (trace cl s).length == 2 && (trace cl s).any (sameEdge (a, m)) && (trace cl s).any (sameEdge (m, b))
  else (trace cl s).length == 1 && (trace cl s).any (sameEdge (a, b))

theorem sideMarked_classify (b0 b1 b2 : Bool) (h : classify b0 b1 b2 ≠ .bad) :
    sideMarked (classify b0 b1 b2) 0 = b0 ∧ sideMarked (classify b0 b1 b2) 1 = b1
      ∧ sideMarked (classify b0 b1 b2) 2 = b2 := by
  cases b0 <;> cases b1 <;> cases b2 <;> simp [classify, sideMarked] at h ⊢

def slot (f : Tri) : Nat → Nat
  | 0 => f.1
  | 1 => f.2.1
  | _ => f.2.2

theorem resolve_mid (nv : Nat) (m : List Bool) (c f : Tri) (s : Nat) :
    resolve nv m c f (sideRV s).2.1 = midIdx nv m (slot f s) := by
  rcases s with _ | _ | _ | s <;> rfl

theorem sideMarked_clsOf (m : List Bool) (f : Tri) (s : Nat) (hs : s < 3) (h : clsOf m f ≠ .bad) :
    sideMarked (clsOf m f) s = get m (slot f s) := by
  obtain ⟨h0, h1, h2⟩ := sideMarked_classify _ _ _ h
  rcases s with _ | _ | _ | s
  · exact h0
  · exact h1
  · exact h2
  · omega

end Skv.RA
