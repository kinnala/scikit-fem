-- Root of the `SkfemVerif` library: models, generated tables and facts, lemmas, property theorems.
-- (The driver executable imports `Model/*` and `Drv/*` only.)
import SkfemVerif.Model.Affine
import SkfemVerif.Model.Assembly
import SkfemVerif.Model.Autodiff
import SkfemVerif.Model.BC
import SkfemVerif.Model.Blocks
import SkfemVerif.Model.Cache
import SkfemVerif.Model.Conformity
import SkfemVerif.Model.DofLookup
import SkfemVerif.Model.Dofs
import SkfemVerif.Model.Finder
import SkfemVerif.Model.Helpers
import SkfemVerif.Model.Integration
import SkfemVerif.Model.MeshIO
import SkfemVerif.Model.Np
import SkfemVerif.Model.Poly
import SkfemVerif.Model.Quadrature
import SkfemVerif.Model.RefineAdaptive
import SkfemVerif.Model.RefineUniform
import SkfemVerif.Model.Surgery
import SkfemVerif.Model.Topology
import SkfemVerif.Gen.AffineFormulas
import SkfemVerif.Gen.CacheKeys
import SkfemVerif.Gen.HelperFormulas
import SkfemVerif.Gen.QuadFacts
import SkfemVerif.Gen.QuadTables
import SkfemVerif.Gen.ShapeFacts
import SkfemVerif.Gen.Shapes
import SkfemVerif.Gen.TraceFacts
import SkfemVerif.Lemmas.List
import SkfemVerif.Lemmas.Np
import SkfemVerif.Lemmas.Topology
import SkfemVerif.Lemmas.TopologyInverse
import SkfemVerif.Lemmas.Dofs
import SkfemVerif.Lemmas.DofLookup
import SkfemVerif.Lemmas.Assembly
import SkfemVerif.Lemmas.Threads
import SkfemVerif.Lemmas.BC
import SkfemVerif.Lemmas.Mpc
import SkfemVerif.Lemmas.Blocks
import SkfemVerif.Lemmas.Quadrature
import SkfemVerif.Lemmas.PolyCheck
import SkfemVerif.Lemmas.Poly
import SkfemVerif.Lemmas.Traces
import SkfemVerif.Lemmas.MeshIO
import SkfemVerif.Lemmas.Surgery
import SkfemVerif.Lemmas.RefineUniform
import SkfemVerif.Lemmas.RefineUniformGeom
import SkfemVerif.Lemmas.RefineUniformConform
import SkfemVerif.Lemmas.RefineUniformBoundary
import SkfemVerif.Lemmas.RefineAdaptive
import SkfemVerif.Lemmas.RefineAdaptiveGeom
import SkfemVerif.Lemmas.Finder
import SkfemVerif.Lemmas.Cache
import SkfemVerif.Lemmas.Helpers
import SkfemVerif.Lemmas.Autodiff
import SkfemVerif.Lemmas.Affine
import SkfemVerif.Props.C01
import SkfemVerif.Props.C02
import SkfemVerif.Props.C03
import SkfemVerif.Props.C03b
import SkfemVerif.Props.C04
import SkfemVerif.Props.C05
import SkfemVerif.Props.C06
import SkfemVerif.Props.C07
import SkfemVerif.Props.C08
import SkfemVerif.Props.C09
import SkfemVerif.Props.C09b
import SkfemVerif.Props.C10
import SkfemVerif.Props.C11
import SkfemVerif.Props.C12
import SkfemVerif.Props.C13
import SkfemVerif.Props.C14
import SkfemVerif.Props.C15
import SkfemVerif.Props.C16
import SkfemVerif.Props.C17
import SkfemVerif.Props.C18
import SkfemVerif.Props.C19
import SkfemVerif.Props.C20
